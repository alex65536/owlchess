/-
C14  Repetition counting and the chain's outcome follow the game history.
Stated over the chain invariant of C13 (`ChainInvH ch hs`: `hs` = every position of the game so far). The position's
own outcome (`Board::calc_outcome`: mate / stalemate / insufficient material / 75 / 50) is C07.
-/
import OwlModel.Props.C13
import OwlModel.Props.C05
import OwlModel.Props.C07

namespace Owl.Props.C14
open Owl Owl.Impl Owl.Lemmas Owl.Props Owl.Props.C13

/-- the filters are nested: whatever passes `force` passes `strict`, and whatever passes `strict` passes `relaxed` -/
theorem passes_mono : ∀ (o : Outcome),
    (o.passes .force = true → o.passes .strict = true) ∧ (o.passes .strict = true → o.passes .relaxed = true) := by
  intro o
  cases o with
  | win c r => cases c <;> cases r <;> decide
  | draw r => cases r <;> decide

/-- `is_force` holds for checkmate and stalemate only, and is exactly "passes the `force` filter" -/
theorem is_force_exact : ∀ (o : Outcome),
    (o.isForce = true ↔ (∃ c, o = .win c .checkmate) ∨ o = .draw .stalemate) ∧ o.passes .force = o.isForce := by
  intro o
  cases o with
  | win c r => cases c <;> cases r <;> simp [Outcome.isForce, Outcome.passes]
  | draw r => cases r <;> simp [Outcome.isForce, Outcome.passes]

/-- C14: forced outcomes pass every filter, mandatory draws the strict and relaxed ones, claimable draws only the
relaxed one; nothing else passes any filter (the other reasons are never produced by the calculation) -/
theorem passes_table : ∀ (o : Outcome) (f : OutcomeFilter),
    o.passes f =
      (match o with
       | .win _ .checkmate | .draw .stalemate => true
       | .draw .insufficientMaterial | .draw .moves75 | .draw .repeat5 => decide (f ≠ .force)
       | .draw .moves50 | .draw .repeat3 => decide (f = .relaxed)
       | _ => false) := by
  intro o f
  cases o with
  | win s r => cases s <;> cases r <;> cases f <;> rfl
  | draw r => cases r <;> cases f <;> rfl

/-- occurrences of the current position's hash among the positions of the game so far (the current one included) -/
def occurrences (hs : List Board) (b : Board) : Nat := (hs.map (·.hash)).count b.hash

/-- C14: the chain's calculation, stated over the game history: the position's own outcome if it is forced or a
mandatory draw; otherwise five occurrences give the mandatory repetition draw, three the claimable one; otherwise
the position's own (claimable or absent) outcome -/
theorem calc_spec (ch : Chain) (hs : List Board) (h : ChainInvH ch hs) :
    ch.calcOutcome? =
      (match Impl.calcOutcome? ch.board with
       | none => none
       | some o =>
         if (o.any fun x => x.passes .strict) then some o
         else if occurrences hs ch.board ≥ 5 then some (some (.draw .repeat5))
         else if occurrences hs ch.board ≥ 3 then some (some (.draw .repeat3))
         else some o) := by
  unfold Chain.calcOutcome? occurrences
  rw [h.rep]
  cases Impl.calcOutcome? ch.board with
  | none => rfl
  | some o => simp only [Gen.chainFirstFilter, Gen.repeat5, Gen.repeat3, decide_eq_true_eq]

theorem occurrences_countP (hs : List Board) (b : Board) :
    occurrences hs b = hs.countP fun x => x.hash == b.hash := by
  unfold occurrences
  rw [List.count_eq_countP, List.countP_map]
  rfl

/-- C14: every earlier position with the same squares, side to move, castling rights and en-passant mark is counted
(equal repetition keys have equal hashes, C05); a count can exceed the true number of repetitions only through a
64-bit hash collision -/
theorem occurrences_ge (hs : List Board) (b : Board) (hb : Consistent b) (hcons : ∀ x ∈ hs, Consistent x) :
    (hs.filter fun x => decide (x.r.cells = b.r.cells ∧ x.r.side = b.r.side ∧ x.r.castling = b.r.castling
        ∧ x.r.ep = b.r.ep)).length ≤ occurrences hs b := by
  rw [occurrences_countP, ← List.countP_eq_length_filter]
  apply List.countP_mono_left
  intro x hx hk
  simp only [decide_eq_true_eq] at hk
  exact beq_iff_eq.mpr (C05.hash_depends_only_on_key x b (hcons x hx) hb hk.1 hk.2.1 hk.2.2.1 hk.2.2.2)

theorem Game.consistent {b0 : Board} (h0 : Valid b0) : ∀ {st hs b}, Game b0 st hs b → ∀ x ∈ hs, Consistent x :=
  fun h x hx => ((h.valid_all h0).2 x hx).shape.cons

/-- C14: automatic outcome setting stores the calculated outcome exactly when it passes the requested filter, and
changes nothing else -/
theorem auto_spec (ch : Chain) (f : OutcomeFilter) :
    ch.setAutoOutcome? f =
      (match ch.calcOutcome? with
       | none => none
       | some none => some ch
       | some (some o) => some (if o.passes f then { ch with outcome := some o } else ch)) := by
  unfold Chain.setAutoOutcome?
  cases ch.calcOutcome? with
  | none => rfl
  | some o => cases o with
    | none => rfl
    | some o => simp only; split <;> rfl

/-- C14: a pop lowers the occurrence counts exactly as the push raised them (the table after push-then-pop counts
every hash as before); with `C13.pop_spec'` and `C13.push_ok` this is what the chain does with its table -/
theorem pop_push_counts (r : Repeat) (h : BB) (hw : RepWf r) :
    ∃ r', (r.push h).pop? h = some r' ∧ RepWf r' ∧ ∀ x, r'.count x = r.count x := by
  have hpw := push_spec r h hw
  have hc : (r.push h).count h ≠ 0 := by rw [hpw.2]; simp
  obtain ⟨r', hr1, hr2, hr3⟩ := pop_spec _ _ hpw.1 hc
  refine ⟨r', hr1, hr2, fun x => ?_⟩
  rw [hr3, hpw.2]
  split <;> omega

/-- C14 totality: on a chain that satisfies the invariant the calculation cannot panic -/
theorem calc_total (ch : Chain) (h : ChainInv ch) : ch.calcOutcome? ≠ none := by
  unfold Chain.calcOutcome?
  -- the position's own calculation returns a value on a valid board (C07); then every branch returns `some`
  rw [C07.calcOutcome_eq ch.board h.valid]
  dsimp only
  repeat' split
  all_goals exact Option.some_ne_none _

end Owl.Props.C14
