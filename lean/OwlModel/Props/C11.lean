/-
C11  Validation accepts exactly the valid raw boards and normalises them consistently.
`Spec.ValidRaw` is the condition of the statement; `Spec.normalise` drops exactly the unbacked rights and
en-passant marks; `Spec.Holds r p` says rejection reason `r` really holds of position `p`.
-/
import OwlModel.Lemmas.Validate
import OwlModel.Props.C04

namespace Owl.Props.C11
open Owl Owl.Impl Owl.Lemmas

/-- the gate in two cases: either the en-passant mark is on the wrong rank and that is the error, or the gate is
`checkBoard` of the board built from the normalised input, whose abstraction is `Spec.normalise` of the input's -/
theorem validate_cases (raw : RawBoard) :
    (∃ r, validate raw = checkBoard (buildBoard r) ∧ abs r = Spec.normalise (abs raw)
      ∧ ∀ e, raw.ep = some e → Spec.rank e = Spec.epRank raw.side)
    ∨ (∃ p, validate raw = .err (.invalidEnpassant p) ∧ raw.ep = some p ∧ Spec.rank p ≠ Spec.epRank raw.side) := by
  unfold validate
  rcases normaliseEp_cases raw with ⟨hn, hrank⟩ | ⟨p, hn, hep, hrank⟩
  · rw [hn]
    exact .inl ⟨_, rfl, abs_normalise raw _ hn, fun e he => (epSrcRank_eq e raw.side).mp (hrank e he)⟩
  · rw [hn]
    exact .inr ⟨p, rfl, hep, fun e => hrank ((epSrcRank_eq p raw.side).mpr e)⟩

/-- success: the input was valid, the result is the normalised input with its derived state -/
theorem validate_ok (raw : RawBoard) (b : Board) (h : validate raw = .ok b) :
    Spec.ValidRaw (abs raw) = true ∧ abs b.r = Spec.normalise (abs raw) ∧ Consistent b := by
  rcases validate_cases raw with ⟨r, hv, habs, hrank⟩ | ⟨p, hv, _, _⟩
  · rw [hv] at h
    obtain rfl := checkBoard_eq h
    have hc := (checkBoard_build_iff r).mp h
    rw [habs] at hc
    -- the counting conditions read only the board, which `Spec.normalise` leaves alone
    exact ⟨(validRaw_iff _).mpr ⟨hrank, hc⟩, habs, rfl⟩
  · rw [hv] at h; cases h

/-- failure: the reported reason is a condition that really holds on that board -/
theorem validate_err_sound (raw : RawBoard) (e : ValidateError) (h : validate raw = .err e) :
    Spec.Holds (absErr e) (abs raw) := by
  rcases validate_cases raw with ⟨r, hv, habs, _⟩ | ⟨p, hv, hep, hrank⟩
  · have hc := checkBoard_err r e (hv ▸ h)
    rw [habs] at hc
    cases e <;> first | exact hc | exact hc.elim
  · rw [hv] at h
    injection h with h; subst h
    exact ⟨hep, hrank⟩

/-- the gate never panics -/
theorem validate_no_trap (raw : RawBoard) (w : String) : validate raw ≠ .trap w := by
  intro h
  rcases validate_cases raw with ⟨r, hv, _⟩ | ⟨p, hv, _⟩ <;> rw [hv] at h
  · exact checkBoard_notrap r w h
  · cases h

/-- C11: conversion succeeds exactly when the raw board is valid -/
theorem validate_ok_iff (raw : RawBoard) : (∃ b, validate raw = .ok b) ↔ Spec.ValidRaw (abs raw) = true := by
  constructor
  · intro ⟨b, h⟩; exact (validate_ok raw b h).1
  · intro hv
    obtain ⟨hep, hc⟩ := (validRaw_iff _).mp hv
    rcases validate_cases raw with ⟨r, hval, habs, -⟩ | ⟨p, -, hp, hrank⟩
    · refine ⟨_, hval.trans ((checkBoard_build_iff r).mpr ?_)⟩
      rw [habs]
      exact hc
    · exact absurd (hep p hp) hrank

/-- a board from the gate is `Valid`: it has the gate's normal form and, being what `checkBoard` returned, passes
`checkBoard` -/
theorem valid_of_validate (raw : RawBoard) (b : Board) (h : validate raw = .ok b) : Valid b := by
  have hs := validate_shape raw b h
  obtain ⟨_, -, -, hc⟩ := validate_built raw b h
  exact ⟨hs, (checkBoard_iff b hs.cons).mp hc⟩

/-- validating the result again changes nothing -/
theorem validate_idem (raw : RawBoard) (b : Board) (h : validate raw = .ok b) : validate b.r = .ok b :=
  (valid_iff_validate b).mp (valid_of_validate raw b h)

/-! non-vacuity: the initial array is valid and is returned unchanged -/
example : Spec.ValidRaw (abs C04.initialRaw) = true := by decide +kernel
example : abs C04.initialRaw = Spec.normalise (abs C04.initialRaw) := by decide +kernel

end Owl.Props.C11
