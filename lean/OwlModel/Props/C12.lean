/-
C12  Every text parser is total: malformed input gives an error, never a panic.
The parsers are modelled on bytes with every Rust panic site (slice off a character boundary, `len - 2`
underflow, `unwrap`, `assert`, index out of range, `Coord::add`) as an explicit `Res.trap` result; the theorems say
`trap` is unreachable — for all byte strings, with no validity assumption on the bytes, and for the
position-dependent entry points in every validated board (the UCI readers need only a king of each colour; the SAN
reader's statement is in Props/C12_chain, downstream of the SAN lemmas).
-/
import OwlModel.Lemmas.Total
import OwlModel.Lemmas.Valid
import OwlModel.Props.C11
import OwlModel.Props.C03
import OwlModel.Props.C20

namespace Owl.Props.C12
open Owl Owl.Impl Owl.Lemmas

/-- FEN record → raw board -/
theorem fen_total (s : Bytes) (w : String) : parseFen s ≠ .trap w := (parseFen_post s).no_trap w

/-- FEN record → validated board -/
theorem fen_board_total (s : Bytes) (w : String) : parseFenBoard s ≠ .trap w := by
  intro h
  unfold parseFenBoard at h
  split at h
  · exact (parseFen_post _).no_trap _ ‹_›
  · cases h
  · split at h
    · exact C11.validate_no_trap _ _ ‹_›
    · cases h
    · cases h

/-- UCI move text -/
theorem uci_total (s : Bytes) (w : String) : parseUci s ≠ .trap w := (parseUci_post s).no_trap w

/-- SAN move text -/
theorem san_total (s : Bytes) (w : String) : parseSan s ≠ .trap w := (parseSan_post s).no_trap w

/-- the four base-type parsers are total functions into `Except` (no panic result exists in their model):
every input gives a value or an error -/
theorem base_parsers_total (s : Bytes) :
    (∃ r, parseCoord s = r) ∧ (∃ r, parseCell s = r) ∧ (∃ r, parseColor s = r) ∧ (∃ r, parseRights s = r) :=
  ⟨⟨_, rfl⟩, ⟨_, rfl⟩, ⟨_, rfl⟩, ⟨_, rfl⟩⟩

theorem validate_has_kings (raw : RawBoard) (b : Board) (hv : validate raw = .ok b) : HasKings b :=
  valid_hasKings b (C11.valid_of_validate raw b hv)

/-- UCI text resolved against a position (all three readers) -/
theorem uci_in_position_total (raw : RawBoard) (b : Board) (hv : validate raw = .ok b) (s : Bytes) (w : String) :
    moveFromUci s b ≠ .trap w ∧ moveFromUciSemilegal s b ≠ .trap w ∧ moveFromUciLegal s b ≠ .trap w :=
  moveFromUci_no_trap b (validate_has_kings raw b hv) s w

theorem coord_reparse (v : Sq) : parseCoord (fmtCoord v) = .ok v := C20.coord_text_roundtrip v
theorem cell_reparse (v : Cell) : parseCell [cellByte v] = .ok v := C20.cell_text_roundtrip v
theorem color_reparse (v : Color) : parseColor [colorByte v] = .ok v := C20.color_text_roundtrip v
theorem rights_reparse (v : Rights) : parseRights (fmtRights v) = .ok v := C20.rights_text_roundtrip v

theorem parseUci_shape (s : Bytes) (u : UciMove) (h : parseUci s = .ok u) : UciShape u :=
  ((parseUci_post s).of_ok h).1

theorem parseCoord_bytes (f r : Fin 8) : parseCoord [fileByte f, rankByte r] = .ok (Sq.mk f r) := by
  simpa [fmtCoord] using coord_reparse (Sq.mk f r)

/-- The written text is four coordinate bytes and at most one promotion letter. It is not `0000` (a file letter is
not `0`), it is ASCII (so `str::get` never cuts a character), and each half is read back by `parseCoord_bytes`. -/
theorem uci_reparse_move (src dst : Sq) (p : Option Piece)
    (hp : p = none ∨ p = some .knight ∨ p = some .bishop ∨ p = some .rook ∨ p = some .queen) :
    parseUci (fmtUci (.move src dst p)) = .ok (.move src dst p) := by
  have n0 : fileByte src.file ≠ 48 := by unfold fileByte; omega
  have nb : ¬ 128 ≤ fileByte dst.file := by unfold fileByte; omega
  rcases hp with h | h | h | h | h <;> subst h <;>
    simp [fmtUci, fmtCoord, parseUci, strGet, isCharBoundary, parseCoord_bytes, n0, nb]

theorem uci_reparse (s : Bytes) (u : UciMove) (h : parseUci s = .ok u) : parseUci (fmtUci u) = .ok u := by
  -- the input is the text of the value (`parseUci_post`), so reading that text again is reading the input
  rw [← ((parseUci_post s).of_ok h).2]; exact h

/-! non-vacuity: inputs on which the unrepaired code panicked (D2, D3) are errors -/
example : parseUci [97, 0xC3, 0xA9, 52] = .err .badLength := by decide
example : parseSan [78] = .err (.invalidDst .badLength) := by decide
example : parseSan [0xE2, 0x82, 0xAC] = .err .syntax := by decide

end Owl.Props.C12
