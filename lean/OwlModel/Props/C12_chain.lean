/-
C12 (continued): `push_uci_list` and the UCI-string make-like cannot panic on a chain that satisfies the C13 invariant
(every intermediate position is valid, hence has both kings); SAN text resolved against a validated position cannot
panic (from the SAN reader's walk in Lemmas/SanSound).
-/
import OwlModel.Props.C13

namespace Owl.Props.C12
open Owl Owl.Impl Owl.Lemmas Owl.Props Owl.Props.C13

theorem makeUciStr_no_trap (b : Board) (hv : Valid b) (s : Bytes) (w : String) : makeUciStr b s ≠ .trap w :=
  (makeUciStr_post b s hv).no_trap w

/-- C12/C13: `push_uci_list` cannot panic at any token (every intermediate position is valid) -/
theorem pushUciList_no_trap (ch : Chain) (h : ChainInv ch) (s : Bytes) (k : Nat) (w : String) :
    (ch.pushUciList s).2 ≠ some (k, .trap w) :=
  (go_spec _ ch 0 h).2.2.2.2.2.2 k w

/-- SAN text resolved against a position -/
theorem san_in_position_total (raw : RawBoard) (b : Board) (hv : validate raw = .ok b) (s : Bytes) (w : String) :
    moveFromSan s b ≠ .trap w :=
  C09.moveFromSan_no_trap b (C11.valid_of_validate raw b hv) s w

end Owl.Props.C12
