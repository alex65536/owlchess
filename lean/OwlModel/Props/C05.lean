/-
C05  Incremental Zobrist hash and occupancy sets equal a from-scratch recomputation.
`Consistent b` is literally `b = buildBoard b.r`: stored hash = `RawBoard::zobrist_hash` of the raw position,
stored colour / piece / combined sets = the sets rebuilt from the squares.
-/
import OwlModel.Lemmas.Unmake
import OwlModel.Props.C04

namespace Owl.Props.C05
open Owl Owl.Impl Owl.Lemmas

/-- the validation gate establishes it -/
theorem validate_consistent (raw : RawBoard) (b : Board) (h : validate raw = .ok b) : Consistent b :=
  C04.validate_consistent raw b h

/-- applying a move preserves it (all ten move kinds) -/
theorem make_preserves (b : Board) (mv : Move) (hb : Consistent b) (ok : MakeOk b mv) :
    Consistent (makeMove b mv).1 := make_consistent b mv hb ok

/-- undoing returns to the (consistent) board before -/
theorem unmake_preserves (b : Board) (mv : Move) (hb : Consistent b) (ok : MakeOk b mv) :
    Consistent (unmakeMove (makeMove b mv).1 mv (makeMove b mv).2) := by
  rw [unmake_make b mv hb ok]; exact hb

inductive Op | make (mv : Move) | unmake

/-- the undo stack as kept by chains, walkers and search code: (move, undo record) newest first -/
abbrev Stack := List (Move × RawUndo)

/-- one step; `unmake` on an empty stack does nothing -/
def step (st : Board × Stack) : Op → Board × Stack
  | .make mv => let (b', u) := makeMove st.1 mv; (b', (mv, u) :: st.2)
  | .unmake => match st.2 with
    | [] => st
    | (mv, u) :: rest => (unmakeMove st.1 mv u, rest)

/-- ghost description of a stack: the boards the moves were applied to -/
def StackOk : Stack → Board → Prop
  | [], _ => True
  | (mv, u) :: rest, cur =>
    ∃ prev, Consistent prev ∧ MakeOk prev mv ∧ cur = (makeMove prev mv).1 ∧ u = (makeMove prev mv).2 ∧ StackOk rest prev

/-- every `make` in the history meets the precondition of `make_move_unchecked` in the state it is applied to -/
def HistoryOk : Board × Stack → List Op → Prop
  | _, [] => True
  | st, .make mv :: ops => MakeOk st.1 mv ∧ HistoryOk (step st (.make mv)) ops
  | st, .unmake :: ops => HistoryOk (step st .unmake) ops

theorem step_inv (st : Board × Stack) (op : Op) (hc : Consistent st.1) (hs : StackOk st.2 st.1)
    (hop : match op with | .make mv => MakeOk st.1 mv | .unmake => True) :
    Consistent (step st op).1 ∧ StackOk (step st op).2 (step st op).1 := by
  cases op with
  | make mv =>
    simp only [step]
    exact ⟨make_consistent st.1 mv hc hop, st.1, hc, hop, rfl, rfl, hs⟩
  | unmake =>
    obtain ⟨b, stack⟩ := st
    cases stack with
    | nil => exact ⟨hc, hs⟩
    | cons e rest =>
      obtain ⟨mv, u⟩ := e
      obtain ⟨prev, hp, hok, hcur, hu, hrest⟩ := hs
      simp only [step]
      simp only at hcur hu
      subst hcur; subst hu
      rw [unmake_make prev mv hp hok]
      exact ⟨hp, hrest⟩

/-- after any finite history of moves applied and undone from any consistent start, the stored hash and sets equal
the from-scratch recomputation -/
theorem history_consistent : ∀ (ops : List Op) (st : Board × Stack), Consistent st.1 → StackOk st.2 st.1 →
    HistoryOk st ops → Consistent (ops.foldl step st).1
  | [], _, hc, _, _ => hc
  | .make mv :: ops, st, hc, hs, ⟨hok, hrest⟩ => by
    have := step_inv st (.make mv) hc hs hok
    exact history_consistent ops _ this.1 this.2 hrest
  | .unmake :: ops, st, hc, hs, hrest => by
    have := step_inv st .unmake hc hs trivial
    exact history_consistent ops _ this.1 this.2 hrest

/-- same squares, side, rights and en-passant mark ⇒ same hash, however the positions were reached; the counters are ignored -/
theorem hash_depends_only_on_key (b b' : Board) (hb : Consistent b) (hb' : Consistent b')
    (h1 : b.r.cells = b'.r.cells) (h2 : b.r.side = b'.r.side) (h3 : b.r.castling = b'.r.castling)
    (h4 : b.r.ep = b'.r.ep) : b.hash = b'.hash := by
  rw [((consistent_iff' b).mp hb).1, ((consistent_iff' b').mp hb').1, h1, h2, h3, h4]

/-! key-table facts, decided by the kernel on the table extracted from the build under test -/

theorem key_empty_zero (s : Sq) : zPieces 0 s = 0#64 := zPieces_empty s

/-- a table without repetition has distinct entries at distinct indices (the tables below are evaluated in this shape: one
comparison per unordered pair) -/
theorem distinct_of_nodup {n : Nat} (f : Fin n → BB) (h : ((List.finRange n).map f).Nodup) (a b : Fin n) (hab : a ≠ b) :
    f a ≠ f b := by
  rw [List.nodup_iff_pairwise_ne, List.pairwise_map, List.pairwise_iff_getElem] at h
  have key : ∀ a b : Fin n, a < b → f a ≠ f b := by
    intro a b hlt
    simpa using h a.val b.val (by simp) (by simp) hlt
  rcases Nat.lt_or_gt_of_ne (fun e => hab (Fin.ext e)) with hlt | hgt
  · exact key a b hlt
  · exact (key b a hgt).symm

theorem keys_nodup : ∀ s : Sq, ((List.finRange 13).map fun c => zPieces c s).Nodup := by decide +kernel
theorem keys_distinct_per_square (s : Sq) (c c' : Cell) (h : c ≠ c') : zPieces c s ≠ zPieces c' s :=
  distinct_of_nodup (fun c => zPieces c s) (keys_nodup s) c c' h
theorem move_side_key_nonzero : zMoveSide ≠ 0#64 := by decide +kernel
theorem castling_keys_distinct : ∀ (r r' : Rights), r ≠ r' → zCastling r ≠ zCastling r' :=
  distinct_of_nodup zCastling (by decide +kernel)
theorem castling_keys_linear : ∀ (r r' : Rights), (r.val &&& r'.val = 0) →
    zCastling ⟨(r.val ||| r'.val) % 16, Nat.mod_lt _ (by decide)⟩ = zCastling r ^^^ zCastling r' := by decide +kernel
theorem ep_keys_distinct : ∀ (e e' : Sq), e ≠ e' → zEnpassant e ≠ zEnpassant e' :=
  distinct_of_nodup zEnpassant (by decide +kernel)
theorem ep_keys_nonzero : ∀ (e : Sq), zEnpassant e ≠ 0#64 := by decide +kernel
theorem castling_delta_keys (c : Color) :
    zCastlingDelta c .king = zPieces (Cell.mk c .king) (Sq.mk fileE (castlingRank c))
        ^^^ zPieces (Cell.mk c .king) (Sq.mk fileG (castlingRank c))
        ^^^ zPieces (Cell.mk c .rook) (Sq.mk fileH (castlingRank c))
        ^^^ zPieces (Cell.mk c .rook) (Sq.mk fileF (castlingRank c)) := (castle_delta c).1

theorem xor_ne_of_ne {a k k' : BB} (h : k ≠ k') : a ^^^ k ≠ a ^^^ k' := by
  intro e; apply h
  have := congrArg (fun x => a ^^^ x) e
  simpa [← BitVec.xor_assoc] using this

/-- changing a hash by the keys of two different values of one feature changes it -/
theorem xor_delta_ne {a k k' : BB} (h : k ≠ k') : a ^^^ (k ^^^ k') ≠ a := by
  simpa using xor_ne_of_ne (a := a) (mt BitVec.xor_eq_zero_iff.mp h)

/-- two positions differing in exactly one man on one square hash differently -/
theorem diff_one_square (r : RawBoard) (s : Sq) (c' : Cell) (h : r.get s ≠ c') :
    (r.put s c').zobrist ≠ r.zobrist := by
  rw [zobrist_eq, zobrist_eq]
  simp only [RawBoard.put, cellsHash_put, ← BitVec.xor_assoc]
  rw [BitVec.xor_assoc _ (zPieces _ _)]
  exact xor_delta_ne (keys_distinct_per_square s (r.cells.get s) c' h)

/-- … in the side to move -/
theorem diff_side (r : RawBoard) : ({ r with side := r.side.inv } : RawBoard).zobrist ≠ r.zobrist := by
  rw [zobrist_eq, zobrist_eq]
  simp only [headerHash_flip]
  -- the one key `M` written as `M ^^^ 0`, the shape `xor_delta_ne` takes (with `k' = 0`)
  rw [show ∀ H C M : BB, H ^^^ M ^^^ C = (H ^^^ C) ^^^ (M ^^^ 0#64) from fun H C M => by rw [BitVec.xor_zero]; ac_rfl]
  exact xor_delta_ne move_side_key_nonzero

/-- … in the castling rights (in particular in one right) -/
theorem diff_castling (r : RawBoard) (k' : Rights) (h : r.castling ≠ k') :
    ({ r with castling := k' } : RawBoard).zobrist ≠ r.zobrist := by
  rw [zobrist_eq, zobrist_eq]
  simp only [headerHash_castling r.side r.ep r.castling k']
  rw [show ∀ H C K K' : BB, H ^^^ K ^^^ K' ^^^ C = (H ^^^ C) ^^^ (K ^^^ K') from fun _ _ _ _ => by ac_rfl]
  exact xor_delta_ne (castling_keys_distinct r.castling k' h)

theorem epKey_ne {e e' : Option Sq} (h : e ≠ e') : epKey e ≠ epKey e' := by
  cases e <;> cases e' <;> simp only [epKey]
  · exact absurd rfl h
  · exact (ep_keys_nonzero _).symm
  · exact ep_keys_nonzero _
  · exact ep_keys_distinct _ _ (fun e => h (by rw [e]))

/-- … in the en-passant mark (one file vs another, or mark vs no mark) -/
theorem diff_ep (r : RawBoard) (e' : Option Sq) (h : r.ep ≠ e') :
    ({ r with ep := e' } : RawBoard).zobrist ≠ r.zobrist := by
  rw [zobrist_eq, zobrist_eq]
  simp only [headerHash_ep r.side r.ep e' r.castling]
  rw [show ∀ H C E E' : BB, H ^^^ E ^^^ E' ^^^ C = (H ^^^ C) ^^^ (E ^^^ E') from fun _ _ _ _ => by ac_rfl]
  exact xor_delta_ne (epKey_ne h)

/-! non-vacuity -/
example : Consistent (buildBoard C04.initialRaw) := rfl
example : (makeMove (buildBoard C04.initialRaw) ⟨.double, 1, 52, 36⟩).1.hash
    = (buildBoard (makeMove (buildBoard C04.initialRaw) ⟨.double, 1, 52, 36⟩).1.r).hash :=
  congrArg Board.hash (make_consistent _ _ rfl (by decide +kernel))

end Owl.Props.C05
