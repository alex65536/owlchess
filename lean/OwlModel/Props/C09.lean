/-
C09  SAN output is standard; SAN input resolves only to the legal move it describes.
Input side (every valid position, every SAN value; soundness in Lemmas/SanSound, completeness, uniqueness and ambiguity
in Lemmas/SanOutput): `san_input_sound` — a move is returned only if it is well-formed, semilegal and legal and agrees
(`Agrees`) with the piece, destination, origin hints and promotion of the text, and for a piece move marked as a capture
the destination is occupied (for a pawn capture `Agrees` asks for the written file and destination only);
`san_input_unique` — the returned move is the only legal move that agrees; `san_ambiguity` — when two different legal
moves agree with a piece move or a pawn capture written without rank (no other form the parser produces can be
ambiguous: `san_ambiguity_reported`) the result is `Ambiguity` naming two such moves, never a silent choice;
`san_make_likes` — the SAN make-likes are legal steps (C02 and C13 for the SAN paths).
Output side (Lemmas/SanOutput; every valid position, every legal move): `san_output_standard` — the text produced is
exactly the rules' standard notation `Spec.San.write` (piece letter, the minimal file / rank / square disambiguation
computed among legal moves only, capture mark, promotion suffix, castling symbols, `+` iff the opponent is in check
with a legal move, `#` iff in check with none); `san_output_roundtrip` — the text parses back, in the same position, to
the same SAN value and the same move; `san_output_injective` — distinct legal moves get distinct texts.
The theorems of this file are the ones the C09 check audits.
-/
import OwlModel.Lemmas.SanSound
import OwlModel.Lemmas.SanOutput
import OwlModel.Props.C02_san

namespace Owl.Props.C09
open Owl Owl.Impl Owl.Lemmas Owl.Props

/-- C09 (input soundness) -/
theorem san_input_sound (b : Board) (hv : Valid b) (d : SanData) (mv : Move) (h : sanIntoMove d b = .ok mv) :
    (mv.isWellFormed = true ∧ isSemilegal b mv = true ∧ isLegalUnchecked? b mv = some true) ∧ Agrees b d mv :=
  san_sound b hv d mv h

theorem san_input_unique (b : Board) (hv : Valid b) (d : SanData) (mv : Move) (h : sanIntoMove d b = .ok mv)
    (mv' : Move) (hl : Legal b mv') (ha : Agrees b d mv') : mv' = mv := san_unique b hv d mv h mv' hl ha

theorem san_ambiguity (b : Board) (hv : Valid b) (d : SanData)
    (hd : (∃ piece file rank isCapture dst, piece ≠ .pawn ∧ d = .simple piece file rank isCapture dst)
      ∨ (∃ src dst promote, d = .pawnCaptureShort src dst promote))
    (m1 m2 : Move) (hne : m1 ≠ m2) (hl1 : Legal b m1) (ha1 : Agrees b d m1) (hl2 : Legal b m2) (ha2 : Agrees b d m2) :
    ∃ x y, sanIntoMove d b = .err (.ambiguity x y) ∧ x ≠ y ∧ Legal b x ∧ Agrees b d x ∧ Legal b y ∧ Agrees b d y := by
  have hps : d.ParserShape := by
    rcases hd with ⟨piece, file, rank, isCapture, dst, hp, rfl⟩ | ⟨src, dst, promote, rfl⟩
    · exact hp
    · trivial
  obtain ⟨x, y, hxy, a, ⟨b1, b2⟩, c1, c2⟩ := san_ambiguity_reported b hv d hps m1 m2 hne hl1 ha1 hl2 ha2
  exact ⟨x, y, hxy, a, b1, b2, c1, c2⟩

/-- C02 / C13 for the SAN paths -/
theorem san_make_likes (b : Board) (hv : Valid b) :
    (∀ m, C13.MakeLikeOk b (makeSanMove b m)) ∧ (∀ s, C13.MakeLikeOk b (makeSanStr b s)) :=
  C02.make_san_ok b hv

/-- C09 (output is the standard notation) -/
theorem san_output_standard (b : Board) (hv : Valid b) (sm : Spec.Move) (hl : sm ∈ Spec.legalMoves (abs b.r)) :
    ∃ s, sanFromMove (concMove sm) b = .ok s ∧ fmtSan s = .ok (Spec.San.write (abs b.r) sm) :=
  san_text_standard b hv sm ((legal_iff_spec b hv sm).mp hl)

/-- C09 (round trip through text) -/
theorem san_output_roundtrip (b : Board) (hv : Valid b) (mv : Move) (hl : Legal b mv) :
    ∃ sm t, sanFromMove mv b = .ok sm ∧ sanDataFromMove mv b = .ok sm.data ∧ fmtSan sm = .ok t
      ∧ parseSan t = .ok sm ∧ moveFromSan t b = .ok mv := san_text_roundtrip b hv mv hl

/-- C09 (distinct legal moves get distinct texts) -/
theorem san_output_injective (b : Board) (hv : Valid b) (mv1 mv2 : Move) (hl1 : Legal b mv1) (hl2 : Legal b mv2)
    (sm1 sm2 : SanMove) (t : Bytes) (h1 : sanFromMove mv1 b = .ok sm1) (h2 : sanFromMove mv2 b = .ok sm2)
    (f1 : fmtSan sm1 = .ok t) (f2 : fmtSan sm2 = .ok t) : mv1 = mv2 :=
  san_text_injective b hv mv1 mv2 hl1 hl2 sm1 sm2 t h1 h2 f1 f2

end Owl.Props.C09
