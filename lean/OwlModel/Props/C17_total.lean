import OwlModel.Props.C17
import OwlModel.Props.C09_styles
namespace Owl.Props.C17
open Owl Owl.Impl Owl.Lemmas Owl.Props Owl.Props.C13

/-
C17, the printing clause: on a chain that satisfies the chain invariant every move text the styled list printer prints
is the standard text of that move in the position that preceded it (`styled_moves_standard`), so the whole output is
determined (`styled_exact`) and the printer never panics (`styled_never_panics`).
-/

theorem pairs_at {st : List (Move × RawUndo)} {hs : List Board} (hS : Steps st hs) (i : Nat) (hi : i < st.length) :
    ∃ b m u, hs[i]? = some b ∧ st[i]? = some (m, u) ∧ (pairs st hs)[i]? = some (b, m) ∧ Valid b ∧ C09.Legal b m := by
  obtain ⟨bi, m, u, e1, e2, _, _, e5, e6⟩ := hS.step i hi
  exact ⟨bi, m, u, e1, e2, pairs_get e1 e2, e6, e5.wf, e5.sl, e5.legal⟩

theorem pairs_mem {st : List (Move × RawUndo)} {hs : List Board} (hS : Steps st hs) (b : Board) (m : Move)
    (hm : (b, m) ∈ pairs st hs) : Valid b ∧ C09.Legal b m := by
  obtain ⟨i, hi⟩ := List.mem_iff_getElem?.mp hm
  have hlt : i < st.length := by
    have := (List.getElem?_eq_some_iff.mp hi).1
    rw [pairs_length hS] at this; exact this
  obtain ⟨b', m', u, _, _, e3, e4, e5⟩ := pairs_at hS i hlt
  rw [hi] at e3
  cases e3
  exact ⟨e4, e5⟩

/-- the standard text of rules-level move `sm` (with `concMove sm = m`) made in position `b`, per style: the rules'
SAN, the rules' figurine SAN, or the coordinate text -/
def stdText (style : MoveStyle) (b : Board) (m : Move) (sm : Spec.Move) : Bytes :=
  match style with
  | .san => Spec.San.write (abs b.r) sm
  | .sanUtf8 => Spec.San.writeWith true (abs b.r) sm
  | .uci => fmtUci (uciOfMove m)

/-- C17 (printing, the move texts): for every index `i` of the record, entry `i` of `pairs` is
(position `b` preceding move `i`, move `m` number `i` of the stack); `m` is the implementation form of a rules-level
move `sm` that is legal in `abs b`, and the text printed for it is `Spec.San.write (abs b.r) sm` (style `san`),
`Spec.San.writeWith true (abs b.r) sm` (style `sanUtf8`), `fmtUci (uciOfMove m)` (style `uci`).
(Needs neither the bound on the start move number nor the numbering policy: those only concern the numbers.) -/
theorem styled_moves_standard (ch : Chain) (hs : List Board) (h : ChainInvH ch hs) (i : Nat)
    (hi : i < ch.stack.length) :
    ∃ b m u sm, (pairs ch.stack hs)[i]? = some (b, m) ∧ hs[i]? = some b ∧ ch.stack[i]? = some (m, u)
      ∧ Valid b ∧ absMove m = some sm ∧ concMove sm = m ∧ sm ∈ Spec.legalMoves (abs b.r)
      ∧ fmtStyledMove? m b .san = some (Spec.San.write (abs b.r) sm)
      ∧ fmtStyledMove? m b .sanUtf8 = some (Spec.San.writeWith true (abs b.r) sm)
      ∧ fmtStyledMove? m b .uci = some (fmtUci (uciOfMove m))
      ∧ ∀ style, fmtStyledMove? m b style = some (stdText style b m sm) := by
  obtain ⟨b, m, u, e1, e2, e3, hv, hl⟩ := pairs_at (steps_of_inv h) i hi
  obtain ⟨sm, a1, a2, a3, a4, a5, a6⟩ := C09.styled_impl b hv m hl
  exact ⟨b, m, u, sm, e3, e1, e2, hv, a1, a2, a3, a5, a4, a6, fun style => by cases style <;> assumption⟩

/-- total version of `stdText`: the rules-level move is recovered with `absMove` (which succeeds on every recorded
move, see `styled_moves_standard`) -/
def stdMoveTxt (style : MoveStyle) (b : Board) (m : Move) : Bytes :=
  match absMove m with
  | some sm => stdText style b m sm
  | none => []

/-- the moves after the first, each as (number text) (space) (standard move text) -/
def stdItems (style : MoveStyle) (startNum : Option Nat) (realStart : Nat) : List (Board × Move) → Bytes
  | [] => []
  | (b, mv) :: rest =>
    numTxt startNum realStart b ++ [32] ++ stdMoveTxt style b mv ++ stdItems style startNum realStart rest

theorem fmtStyled_std (b : Board) (hv : Valid b) (m : Move) (hl : C09.Legal b m) (style : MoveStyle) :
    fmtStyledMove? m b style = some (stdMoveTxt style b m) := by
  obtain ⟨sm, a1, _, _, a4, a5, a6⟩ := C09.styled_impl b hv m hl
  unfold stdMoveTxt
  rw [a1]
  cases style <;> assumption

theorem itemsTxt_std (style : MoveStyle) (startNum : Option Nat) (realStart : Nat) :
    ∀ (rest : List (Board × Move)), (∀ b m, (b, m) ∈ rest → Valid b ∧ C09.Legal b m) →
      itemsTxt style startNum realStart rest = some (stdItems style startNum realStart rest) := by
  intro rest
  induction rest with
  | nil => intro _; rfl
  | cons e rest ih =>
    intro hall
    obtain ⟨b, m⟩ := e
    obtain ⟨hv, hl⟩ := hall b m List.mem_cons_self
    simp only [itemsTxt, stdItems, fmtStyled_std b hv m hl style,
      ih (fun b' m' hm => hall b' m' (List.mem_cons_of_mem _ hm))]

/-- C17 (printing, the exact text): on a chain that satisfies the chain invariant the printer returns exactly: nothing
(or the status token) for an empty record; otherwise the head number text, the standard text of the first move, then
for every later move its number text, a space and its standard text, then (if asked for) a space and the status
token.  All move texts are the rules' notation of the move in the position that preceded it -/
theorem styled_exact (ch : Chain) (hs : List Board) (h : ChainInvH ch hs) (hmn : ch.start.mn ≤ 65535)
    (nums : NumberPolicy) (style : MoveStyle) (showStatus : Bool) :
    ch.styled? nums style showStatus = some
      (match pairs ch.stack hs with
       | [] => if showStatus then fmtStatus ch.outcome else []
       | (b0, m0) :: rest =>
         headTxt (startNumOf nums b0.r.mn) b0 ++ stdMoveTxt style b0 m0
           ++ stdItems style (startNumOf nums b0.r.mn) b0.r.mn rest
           ++ (if showStatus then [32] ++ fmtStatus ch.outcome else [])) := by
  have hS := steps_of_inv h
  have hall := pairs_mem hS
  rw [styled_spec ch hs h hmn nums style showStatus]
  cases hp : pairs ch.stack hs with
  | nil => rfl
  | cons e rest =>
    obtain ⟨b0, m0⟩ := e
    rw [hp] at hall
    obtain ⟨hv, hl⟩ := hall b0 m0 List.mem_cons_self
    simp only [fmtStyled_std b0 hv m0 hl style,
      itemsTxt_std style (startNumOf nums b0.r.mn) b0.r.mn rest
        (fun b' m' hm => hall b' m' (List.mem_cons_of_mem _ hm))]

/-- C17 (printing, no panic): on a chain that satisfies the chain invariant (start move number in the `u16` range)
the styled list printer returns a text for every numbering policy, style and status flag: every recorded move is a
legal move of the valid position that preceded it, so each `.unwrap()` of a move text succeeds -/
theorem styled_never_panics (ch : Chain) (hs : List Board) (h : ChainInvH ch hs) (hmn : ch.start.mn ≤ 65535)
    (nums : NumberPolicy) (style : MoveStyle) (showStatus : Bool) :
    ∃ t, ch.styled? nums style showStatus = some t :=
  ⟨_, styled_exact ch hs h hmn nums style showStatus⟩

end Owl.Props.C17
