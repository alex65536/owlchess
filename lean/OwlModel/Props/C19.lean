/-
C19  Unchecked internals never go out of bounds on any valid position.
Proved here: every table index computed from a square, cell, rights value or occupancy is in range, and the
unchecked square arithmetic of the move validator / make-move stays on the board. The clause "no valid position
has more than 256 semilegal moves" is stated here (`SemilegalCountBound`) and PROVED in Props/C19_bound.lean
(`semilegalCountBound`, `semilegal_count_le_256`) by kernel-checked LP-duality certificates (Lemmas/Bound).
-/
import OwlModel.Lemmas.Attacks
import OwlModel.Lemmas.Shape
import OwlModel.Lemmas.Coords

namespace Owl.Props.C19
open Owl Owl.Impl Owl.Lemmas

/-- C19: the rook lookup index is inside `MAGIC_LOOKUP_ROOK` for every square and every occupancy (the range of each
square is part of the table check of C15, `checkSq`) -/
theorem rookIndex_lt (s : Sq) (occ : BB) : rookIndex s occ < Gen.rookLookupLen :=
  (checkSq_sound (rook_table s) occ).1

theorem bishopIndex_lt (s : Sq) (occ : BB) : bishopIndex s occ < Gen.bishopLookupLen :=
  (checkSq_sound (bishop_table s) occ).1

/-- the packed leaper / between / Zobrist tables are indexed by values whose types bound them -/
theorem square_index_lt (s : Sq) : s.val < 64 := s.isLt
theorem cell_index_lt (c : Cell) : c.val < 13 := c.isLt
theorem rights_index_lt (r : Rights) : r.val < 16 := r.isLt
theorem zobrist_piece_index_lt (c : Cell) (s : Sq) : c.val * 64 + s.val < 13 * 64 := by
  have := c.isLt; have := s.isLt; omega

/-- `x` plus `d` stays on the board -/
def OnBoard (s : Sq) (d : Int) : Prop := 0 ≤ (s.val : Int) + d ∧ (s.val : Int) + d < 64

instance (s : Sq) (d : Int) : Decidable (OnBoard s d) := by unfold OnBoard; infer_instance

theorem addU_eq_of_onBoard (s : Sq) (d : Int) (h : OnBoard s d) : ((addU s d).val : Int) = s.val + d :=
  addU_val s d h

/-- a square of rank `r` moved by `d` stays on the board if both ends of the rank do -/
theorem rank_site (s : Sq) (d : Int) (r : Fin 8) (hr : s.rank = r)
    (h : 0 ≤ 8 * (r.val : Int) + d ∧ 8 * (r.val : Int) + 7 + d < 64) : OnBoard s d := by
  obtain ⟨hs, hf, _⟩ := sq_coords s
  subst hr
  unfold OnBoard; omega

/-- a move by `df` files and `dr` ranks that stays on the board does so as an index step -/
theorem coords_site (s : Sq) (df dr : Int)
    (h : (0 ≤ (s.file.val : Int) + df ∧ (s.file.val : Int) + df < 8) ∧ (0 ≤ (s.rank.val : Int) + dr ∧ (s.rank.val : Int) + dr < 8)) :
    OnBoard s (8 * dr + df) := by
  have := sq_coords s
  unfold OnBoard; omega

/-- the unchecked additions of `do_is_move_semilegal` / `do_make_move`, given the ranks well-formedness fixes -/
theorem double_step_site (s : Sq) (c : Color) (h : s.rank = doubleSrcRank c) : OnBoard s (forwardDelta c) := by
  cases c <;> exact rank_site s _ _ h (by decide)
theorem ep_neighbour_sites (s : Sq) (c : Color) (h : s.rank = epSrcRank c) : OnBoard s 1 ∧ OnBoard s (-1) := by
  cases c <;> exact ⟨rank_site s _ _ h (by decide), rank_site s _ _ h (by decide)⟩
theorem ep_forward_site (p : Sq) (c : Color) (h : p.rank = epSrcRank c) : OnBoard p (forwardDelta c) := by
  cases c <;> exact rank_site p _ _ h (by decide)
theorem ep_taken_site (d : Sq) (c : Color) (h : d.rank = epDstRank c) : OnBoard d (-(forwardDelta c)) := by
  cases c <;> exact rank_site d _ _ h (by decide)
theorem castle_sites (c : Color) : OnBoard (Sq.mk fileE (castlingRank c)) 1 ∧ OnBoard (Sq.mk fileE (castlingRank c)) (-1) := by
  cases c <;> decide

/-- in a board with `Shape` the recorded en-passant pawn is on the rank that makes those sites safe -/
theorem ep_mark_site (b : Board) (hs : Shape b) (p : Sq) (h : b.r.ep = some p) :
    OnBoard p (forwardDelta b.r.side) ∧ OnBoard p 1 ∧ OnBoard p (-1) := by
  obtain ⟨hr, _, _⟩ := hs.ep p h
  exact ⟨ep_forward_site p _ hr, (ep_neighbour_sites p _ hr).1, (ep_neighbour_sites p _ hr).2⟩

/-- the capacity clause, stated in full: no position accepted by validation has more semilegal moves than the
fixed-capacity move list can hold (proved in Props/C19_bound.lean, `semilegalCountBound`) -/
def SemilegalCountBound : Prop :=
  ∀ (raw : RawBoard) (b : Board), validate raw = .ok b → (semilegalGen .all b).length ≤ Gen.moveListCap

end Owl.Props.C19
