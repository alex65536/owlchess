/-
C12 (reparse clause) for SAN: every value `san::Move::from_str` returns prints and reads back to itself (`san_reparse`).
C17 / C09: the three move styles of the styled list (`san`, `sanUtf8` figurine, `uci`) print the rules' texts
(`styled_san`, `styled_sanUtf8`, `styled_uci`).
-/
import OwlModel.Lemmas.SanOutput
import OwlModel.Props.C12
namespace Owl.Props.C09
open Owl Owl.Impl Owl.Lemmas Owl.Props

theorem parsed_of_printable (d : SanData) (h : Printable d) : Parsed d := by
  cases d <;> first | exact absurd h id | exact h

theorem printable_of_parsed (d : SanData) (h : Parsed d) : (∃ u, d = .uci u ∧ C12.UciShape u) ∨ Printable d := by
  cases d with
  | uci u => exact Or.inl ⟨u, rfl, h⟩
  | _ => exact Or.inr h

/-- the UCI form: `fmtUci u` is read back by `san::Data::from_str` as `Data::Uci u` (it is never a castling symbol,
never empty, and the UCI reader accepts it first) -/
theorem uciData_reparse_move (src dst : Sq) (p : Option Piece) (hp : PromoPiece p) :
    parseSanData (fmtUci (.move src dst p)) = .ok (.uci (.move src dst p)) := by
  have h := C12.uci_reparse_move src dst p hp
  have h48 : fileByte src.file ≠ 48 := by unfold fileByte; omega
  have h79 : fileByte src.file ≠ 79 := by unfold fileByte; omega
  obtain ⟨rest, e⟩ : ∃ rest, fmtUci (.move src dst p) = fileByte src.file :: rest := ⟨_, rfl⟩
  rw [e] at h ⊢
  unfold parseSanData
  simp only [List.cons.injEq, h48, h79, false_and, Bool.or_self, decide_false, Bool.false_eq_true, if_false,
    List.isEmpty_cons, h]

theorem uci_last_move (src dst : Sq) (p : Option Piece) (hp : PromoPiece p) :
    ∃ x, (fmtUci (.move src dst p)).getLast? = some x ∧ x ≠ 35 ∧ x ≠ 120 ∧ x ≠ 43 := by
  rcases hp with h | h | h | h | h <;> subst h
  · exact ⟨rankByte dst.rank, by simp [fmtUci, fmtCoord], rankByte_last _⟩
  · exact ⟨110, by simp [fmtUci, fmtCoord], by decide⟩
  · exact ⟨98, by simp [fmtUci, fmtCoord], by decide⟩
  · exact ⟨114, by simp [fmtUci, fmtCoord], by decide⟩
  · exact ⟨113, by simp [fmtUci, fmtCoord], by decide⟩

/-- C12 (reparse, SAN data): every datum the parser can return is written without failure, parses back to the same
datum, and its text does not end in a byte the check-mark reader would strip -/
theorem sanData_reparse_parsed (d : SanData) (hd : Parsed d) :
    ∃ t, fmtSanData d = .ok t ∧ parseSanData t = .ok d
      ∧ ∃ x, t.getLast? = some x ∧ x ≠ 35 ∧ x ≠ 120 ∧ x ≠ 43 := by
  rcases printable_of_parsed d hd with ⟨u, rfl, hu⟩ | hp
  · cases u with
    | null => exact ⟨_, rfl, by decide, 48, rfl, by decide⟩
    | move src dst p => exact ⟨_, rfl, uciData_reparse_move src dst p hu, uci_last_move src dst p hu⟩
  · exact sanData_reparse d hp

theorem parseSan_split (s : Bytes) (m : SanMove) (h : parseSan s = .ok m) :
    ∃ body, parseSanData body = .ok m.data := by
  unfold parseSan at h
  dsimp only at h
  split at h
  · rename_i d hd
    injection h with h; subst h
    exact ⟨_, hd⟩
  · cases h
  · cases h

/-- C12 (reparse clause, SAN): for ANY byte string, if `san::Move::from_str` returns a value then `Display` of that
value does not fail and `from_str` of the text returns the same value (data and check mark) -/
theorem san_reparse (s : Bytes) (m : SanMove) (h : parseSan s = .ok m) :
    ∃ t, fmtSan m = .ok t ∧ parseSan t = .ok m := by
  obtain ⟨body, hb⟩ := parseSan_split s m h
  obtain ⟨d, chk⟩ := m
  obtain ⟨t, h1, h2, x, hx, a, b, c⟩ := sanData_reparse_parsed d ((parseSanData_post body).of_ok hb)
  exact ⟨_, fmtSan_eq d chk t h1, parseSan_mark t d x hx a b c h2 chk⟩

theorem sanData_reparse_any (s : Bytes) (d : SanData) (h : parseSanData s = .ok d) :
    ∃ t, fmtSanData d = .ok t ∧ parseSanData t = .ok d :=
  let ⟨t, h1, h2, _⟩ := sanData_reparse_parsed d ((parseSanData_post s).of_ok h)
  ⟨t, h1, h2⟩

/-- `ParserShape` alone is NOT enough: it allows a pawn move promoting to a king, whose text "e8=K" is not SAN -/
theorem parserShape_not_enough :
    (SanData.pawnMove 4 (some .king)).ParserShape
    ∧ fmtSanData (.pawnMove 4 (some .king)) = .ok [101, 56, 61, 75]
    ∧ parseSanData [101, 56, 61, 75] = .err (.invalidDst (.fileChar 61)) := by
  refine ⟨trivial, by decide, by decide⟩

/-- both castling spellings give the same datum, whose text is the `O` spelling -/
example : parseSan [48, 45, 48, 43, 43] = .ok ⟨.castling .king, some .double⟩
    ∧ fmtSan ⟨.castling .king, some .double⟩ = .ok [79, 45, 79, 43, 43]
    ∧ parseSan [79, 45, 79, 43, 43] = .ok ⟨.castling .king, some .double⟩ := by decide

/-- a king move with a superfluous hint and `:` as capture sign, old-style trailing `x` for mate -/
example : parseSan [75, 97, 49, 58, 98, 50, 120] = .ok ⟨.simple .king (some 0) (some 7) true 49, some .checkmate⟩
    ∧ fmtSan ⟨.simple .king (some 0) (some 7) true 49, some .checkmate⟩ = .ok [75, 97, 49, 120, 98, 50, 35]
    ∧ parseSan [75, 97, 49, 120, 98, 50, 35] = .ok ⟨.simple .king (some 0) (some 7) true 49, some .checkmate⟩ := by
  decide

/-- the UCI form with a check mark, and the files-only pawn capture with a promotion written without `=` -/
example : parseSan [101, 55, 101, 56, 113, 43] = .ok ⟨.uci (.move 12 4 (some .queen)), some .single⟩
    ∧ fmtSan ⟨.uci (.move 12 4 (some .queen)), some .single⟩ = .ok [101, 55, 101, 56, 113, 43] := by decide
example : parseSan [101, 100, 81] = .ok ⟨.pawnCaptureShort 4 3 (some .queen), none⟩
    ∧ fmtSan ⟨.pawnCaptureShort 4 3 (some .queen), none⟩ = .ok [101, 100, 61, 81]
    ∧ parseSan [101, 100, 61, 81] = .ok ⟨.pawnCaptureShort 4 3 (some .queen), none⟩ := by decide

/-- the body (without check mark) of `Spec.San.writeWith true` -/
def specBodyFig (p : Spec.Pos) (m : Spec.Move) : Bytes :=
  match m.kind with
  | .castleK => [79, 45, 79]
  | .castleQ => [79, 45, 79, 45, 79]
  | _ =>
    if m.man.piece = .pawn then
      (if Spec.isCapture p m then [97 + Spec.file m.src, 120] else []) ++ Spec.sqText m.dst
        ++ (match m.kind.promote with | some pc => Spec.pieceGlyph pc | none => [])
    else
      Spec.pieceGlyph m.man.piece ++ specDis p m ++ (if Spec.isCapture p m then [120] else []) ++ Spec.sqText m.dst

theorem specBodyFig_eq (p : Spec.Pos) (m : Spec.Move) : specBodyFig p m = bodyOf true p m := rfl

/-- C17 / C09 (figurine style): for every valid position and legal move the `SanUtf8` styled text is produced
(the `.unwrap()` never panics) and it is the rules' figurine notation `Spec.San.writeWith true`: piece glyph instead of
the letter, no `=` before the promotion glyph, everything else as in `san_text_standard` -/
theorem styled_sanUtf8 (b : Board) (hv : Valid b) (sm : Spec.Move) (hl : Legal b (concMove sm)) :
    fmtStyledMove? (concMove sm) b .sanUtf8 = some (Spec.San.writeWith true (abs b.r) sm) := by
  obtain ⟨d, h1, _, _, _, _, h4⟩ := sanFromMove_spec b hv (concMove sm) hl
  have hfig : fmtSanDataUtf8 d = .ok (bodyOf true (abs b.r) sm) := san_body true b hv sm hl d h1
  unfold fmtStyledMove?
  simp only [h4, hfig]
  rw [writeWith_eq, abs_after b hv sm hl]
  generalize markOf (Spec.apply (abs b.r) sm) = chk
  cases chk with
  | none => rfl
  | some c => cases c <;> rfl

/-- C17 / C09 (standard style): the `San` styled text is produced and is `Spec.San.write` -/
theorem styled_san (b : Board) (hv : Valid b) (sm : Spec.Move) (hl : Legal b (concMove sm)) :
    fmtStyledMove? (concMove sm) b .san = some (Spec.San.write (abs b.r) sm) := by
  obtain ⟨s, h1, h2⟩ := san_text_standard b hv sm hl
  unfold fmtStyledMove?
  simp only [h1, h2]

/-- C17 (coordinate style): no position needed -/
theorem styled_uci (mv : Move) (b : Board) : fmtStyledMove? mv b .uci = some (fmtUci (uciOfMove mv)) := rfl

/-- the three styles for an implementation move: the rules-level move is `absMove mv`, a member of the rules' legal
moves, and each styled text is produced (never `none`) -/
theorem styled_impl (b : Board) (hv : Valid b) (mv : Move) (hl : Legal b mv) :
    ∃ sm, absMove mv = some sm ∧ concMove sm = mv ∧ sm ∈ Spec.legalMoves (abs b.r)
      ∧ fmtStyledMove? mv b .sanUtf8 = some (Spec.San.writeWith true (abs b.r) sm)
      ∧ fmtStyledMove? mv b .san = some (Spec.San.write (abs b.r) sm)
      ∧ fmtStyledMove? mv b .uci = some (fmtUci (uciOfMove mv)) := by
  obtain ⟨sm, h1, h2, _⟩ := semilegal_abs b hv mv hl.1 hl.2.1
  subst h2
  exact ⟨sm, h1, rfl, (legal_iff_spec b hv sm).mpr hl, styled_sanUtf8 b hv sm hl, styled_san b hv sm hl, rfl⟩

theorem styled_total (b : Board) (hv : Valid b) (mv : Move) (hl : Legal b mv) (style : MoveStyle) :
    ∃ t, fmtStyledMove? mv b style = some t := by
  obtain ⟨sm, _, _, _, h1, h2, h3⟩ := styled_impl b hv mv hl
  cases style
  · exact ⟨_, h2⟩
  · exact ⟨_, h1⟩
  · exact ⟨_, h3⟩

/-- the figurine text and the letter text of a legal move carry the same check mark and differ only in the body -/
theorem styled_fig_vs_san (b : Board) (hv : Valid b) (sm : Spec.Move) (hl : Legal b (concMove sm)) :
    ∃ mark, fmtStyledMove? (concMove sm) b .sanUtf8 = some (specBodyFig (abs b.r) sm ++ mark)
      ∧ fmtStyledMove? (concMove sm) b .san = some (specBody (abs b.r) sm ++ mark) := by
  refine ⟨markBytes (markOf (Spec.apply (abs b.r) sm)), ?_, ?_⟩
  · rw [styled_sanUtf8 b hv sm hl, writeWith_eq, specBodyFig_eq]
  · rw [styled_san b hv sm hl, specBody_eq]
    exact congrArg some (writeWith_eq false _ _)

/-- knights on a1 and c1 (`fenTwoKnights`): a1-b3 is written "♘ab3" -/
example : (match parseFenBoard fenTwoKnights with
    | .ok b => fmtStyledMove? ⟨.simple, 3, 56, 41⟩ b .sanUtf8
    | _ => none) = some [0xE2, 0x99, 0x98, 97, 98, 51] := by
  decide +kernel

/-- fool's mate: d8-h4 is written "♕h4#" -/
example : (match parseFenBoard fenFoolsMate with
    | .ok b => fmtStyledMove? ⟨.simple, 12, 3, 39⟩ b .sanUtf8
    | _ => none) = some [0xE2, 0x99, 0x95, 104, 52, 35] := by
  decide +kernel

end Owl.Props.C09
