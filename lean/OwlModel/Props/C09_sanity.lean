/-
C09 (sanity of the trusted statements): the rules layer's `Spec.San.write` produces the customary texts on well-known
positions — kernel-checked tests of the specification the C09 theorems are stated against.
-/
import OwlModel.Lemmas.SpecEval

namespace Owl.Props.C09
open Owl Owl.Spec

def sfen_initial : List Nat := [114, 110, 98, 113, 107, 98, 110, 114, 47, 112, 112, 112, 112, 112, 112, 112, 112, 47, 56, 47, 56, 47, 56, 47, 56, 47, 80, 80, 80, 80, 80, 80, 80, 80, 47, 82, 78, 66, 81, 75, 66, 78, 82, 32, 119, 32, 75, 81, 107, 113, 32, 45, 32, 48, 32, 49]
def sans (p : Pos) : List Bytes := (legalMoves p).map (San.write p)
def sameSet (a b : List Bytes) : Bool := a.length = b.length && a.all b.contains && b.all a.contains

theorem sans_eq (p : Pos) : sans p = (legalMovesG p).map (San.writeWithG false p) := by
  unfold sans San.write
  rw [legalMoves_eq]
  exact congrArg (fun f => (legalMovesG p).map f) (funext fun m => San.writeWith_eq false p m)

/-- the twenty first moves -/
theorem spec_san_initial : (Fen.read sfen_initial).map (fun p => sameSet (sans p)
    [[97, 51], [97, 52], [98, 51], [98, 52], [99, 51], [99, 52], [100, 51], [100, 52], [101, 51], [101, 52], [102, 51], [102, 52], [103, 51], [103, 52], [104, 51], [104, 52], [78, 97, 51], [78, 99, 51], [78, 102, 51], [78, 104, 51]]) = some true := by
  simp only [sans_eq]; decide +kernel

/-- capture with mate / check marks: `r1bqkb1r/pppp1ppp/2n2n2/4p2Q/2B1P3/8/PPPP1PPP/RNB1K1NR w KQkq - 4 4` -/
def sfen_mate_mark : List Nat := [114, 49, 98, 113, 107, 98, 49, 114, 47, 112, 112, 112, 112, 49, 112, 112, 112, 47, 50, 110, 50, 110, 50, 47, 52, 112, 50, 81, 47, 50, 66, 49, 80, 51, 47, 56, 47, 80, 80, 80, 80, 49, 80, 80, 80, 47, 82, 78, 66, 49, 75, 49, 78, 82, 32, 119, 32, 75, 81, 107, 113, 32, 45, 32, 52, 32, 52]
theorem spec_san_mate_mark : (Fen.read sfen_mate_mark).map (fun p => (sans p).contains [81, 120, 102, 55, 35] && (sans p).contains [81, 120, 101, 53, 43] && (sans p).contains [66, 120, 102, 55, 43] && (sans p).contains [78, 102, 51] && (sans p).contains [75, 101, 50] && !(sans p).contains [81, 120, 102, 55] && !(sans p).contains [81, 120, 102, 55, 43] && !(sans p).contains [81, 102, 55, 35]) = some true := by
  simp only [sans_eq]; decide +kernel

/-- two knights reach d2: file hints: `4k3/8/8/8/8/8/8/1N2KN2 w - - 0 1` -/
def sfen_file_hint : List Nat := [52, 107, 51, 47, 56, 47, 56, 47, 56, 47, 56, 47, 56, 47, 56, 47, 49, 78, 50, 75, 78, 50, 32, 119, 32, 45, 32, 45, 32, 48, 32, 49]
theorem spec_san_file_hint : (Fen.read sfen_file_hint).map (fun p => (sans p).contains [78, 98, 100, 50] && (sans p).contains [78, 102, 100, 50] && (sans p).contains [78, 97, 51] && (sans p).contains [78, 103, 51] && !(sans p).contains [78, 100, 50] && !(sans p).contains [78, 49, 100, 50] && !(sans p).contains [78, 98, 49, 100, 50]) = some true := by
  simp only [sans_eq]; decide +kernel

/-- two rooks on one file reach a3: rank hints: `4k3/8/8/R7/8/8/8/R3K3 w - - 0 1` -/
def sfen_rank_hint : List Nat := [52, 107, 51, 47, 56, 47, 56, 47, 82, 55, 47, 56, 47, 56, 47, 56, 47, 82, 51, 75, 51, 32, 119, 32, 45, 32, 45, 32, 48, 32, 49]
theorem spec_san_rank_hint : (Fen.read sfen_rank_hint).map (fun p => (sans p).contains [82, 49, 97, 51] && (sans p).contains [82, 53, 97, 51] && (sans p).contains [82, 98, 49] && !(sans p).contains [82, 97, 51] && !(sans p).contains [82, 97, 97, 51]) = some true := by
  simp only [sans_eq]; decide +kernel

/-- castling, en passant, promotions: `r3k2r/1P6/8/3pP3/8/8/8/R3K2R w KQkq d6 0 1` -/
def sfen_castles_ep_promo : List Nat := [114, 51, 107, 50, 114, 47, 49, 80, 54, 47, 56, 47, 51, 112, 80, 51, 47, 56, 47, 56, 47, 56, 47, 82, 51, 75, 50, 82, 32, 119, 32, 75, 81, 107, 113, 32, 100, 54, 32, 48, 32, 49]
theorem spec_san_castles_ep_promo : (Fen.read sfen_castles_ep_promo).map (fun p => (sans p).contains [79, 45, 79] && (sans p).contains [79, 45, 79, 45, 79] && (sans p).contains [101, 120, 100, 54] && (sans p).contains [98, 120, 97, 56, 61, 81, 43] && (sans p).contains [98, 56, 61, 78] && (sans p).contains [98, 120, 97, 56, 61, 82, 43] && !(sans p).contains [48, 45, 48] && !(sans p).contains [101, 120, 100, 54, 32, 101, 46, 112, 46] && !(sans p).contains [98, 56, 78] && !(sans p).contains [101, 100]) = some true := by
  simp only [sans_eq]; decide +kernel

/-- queens on a4, h4 and h1 all reach e4: the a4 queen needs only its file, the h1 queen only its rank, the h4 queen
(sharing its rank with one and its file with the other) the full square: `4k3/8/8/8/Q6Q/8/8/4K2Q w - - 0 1` -/
def sfen_square_hint : List Nat := [52, 107, 51, 47, 56, 47, 56, 47, 56, 47, 81, 54, 81, 47, 56, 47, 56, 47, 52, 75, 50, 81, 32, 119, 32, 45, 32, 45, 32, 48, 32, 49]
theorem spec_san_square_hint : (Fen.read sfen_square_hint).map (fun p => (sans p).contains [81, 104, 52, 101, 52, 43] && (sans p).contains [81, 97, 101, 52, 43] && (sans p).contains [81, 49, 101, 52, 43] && !(sans p).contains [81, 104, 101, 52, 43]) = some true := by
  simp only [sans_eq]; decide +kernel

end Owl.Props.C09
