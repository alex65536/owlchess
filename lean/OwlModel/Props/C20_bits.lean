/-
C20 (continued): the bit loops of `Bitboard` do what their names say. The iterator lists the members in ascending
order, `count_ones` counts them, `deposit_bits` writes bit `i` of its argument to the `i`-th member of the mask, and
the two flips are the involutions of the board that reverse ranks and files.
-/
import OwlModel.Props.C20
import OwlModel.Impl.Bits
import OwlModel.Lemmas.Shifts
namespace Owl.Props.C20
open Owl Owl.Impl Owl.Lemmas

theorem tz_spec (x : BB) (hx : x ≠ 0#64) :
    trailingZeros x < 64 ∧ x.getLsbD (trailingZeros x) = true ∧ ∀ j, j < trailingZeros x → x.getLsbD j = false := by
  unfold trailingZeros
  cases hf : (List.range 64).find? fun i => x.getLsbD i with
  | none =>
    exfalso; apply hx
    rw [List.find?_range_eq_none] at hf
    apply BitVec.eq_of_getLsbD_eq
    intro i hi
    have := hf i hi
    simpa using this
  | some i =>
    rw [List.find?_range_eq_some] at hf
    obtain ⟨h1, h2, h3⟩ := hf
    simp only [Option.getD_some]
    refine ⟨by simpa using h2, h1, ?_⟩
    intro j hj; simpa using h3 j hj

theorem lower_bit_iff (x : BB) (hx : x ≠ 0#64) (i : Nat) :
    (∃ j < i, x.getLsbD j = true) ↔ trailingZeros x < i := by
  obtain ⟨_, h2, h3⟩ := tz_spec x hx
  constructor
  · rintro ⟨j, hj, hb⟩
    apply Nat.lt_of_le_of_lt _ hj
    apply Nat.le_of_not_lt
    intro hlt
    rw [h3 j hlt] at hb
    cases hb
  · exact fun h => ⟨_, h, h2⟩

theorem tz_le_of_has (x : BB) (hx : x ≠ 0#64) (s : Sq) (hs : x.has s = true) : trailingZeros x ≤ s.val := by
  obtain ⟨_, _, h3⟩ := tz_spec x hx
  apply Nat.le_of_not_lt
  intro hlt
  have := h3 s.val hlt
  unfold BB.has at hs
  rw [this] at hs; cases hs

/-- two's complement keeps the bits up to the lowest set one and flips those above it -/
theorem neg_has (x : BB) (hx : x ≠ 0#64) (s : Sq) :
    (-x).has s = (x.has s ^^ decide (trailingZeros x < s.val)) := by
  unfold BB.has
  rw [BitVec.getLsbD_neg]
  simp [lower_bit_iff x hx, s.isLt]

/-- among the members, those above the lowest are those other than it -/
theorem above_iff_ne (x : BB) (hx : x ≠ 0#64) (s : Sq) :
    (x.has s && decide (trailingZeros x < s.val)) = (x.has s && decide (s.val ≠ trailingZeros x)) := by
  cases h : x.has s
  · rfl
  · have := tz_le_of_has x hx s h
    simp only [Bool.true_and, decide_eq_decide]
    omega

theorem sub_one_eq (x : BB) : x - 1#64 = ~~~(-x) := by
  rw [BitVec.neg_eq_not_add, ← BitVec.not_sub_one_eq_not_add_one, BitVec.not_not]

/-- `x & (x - 1)` removes exactly the lowest member -/
theorem clearLowest_has (x : BB) (hx : x ≠ 0#64) (s : Sq) :
    (x &&& (x - 1#64)).has s = (x.has s && decide (s.val ≠ trailingZeros x)) := by
  rw [← above_iff_ne x hx, sub_one_eq, BB.has_and, BB.has_not, neg_has x hx]
  cases x.has s <;> simp

theorem sorted_ext (l₁ l₂ : List Sq) (h₁ : l₁.Pairwise (· < ·)) (h₂ : l₂.Pairwise (· < ·))
    (h : ∀ s, s ∈ l₁ ↔ s ∈ l₂) : l₁ = l₂ :=
  List.Perm.eq_of_pairwise (le := (· < ·)) (fun _ _ _ _ hab hba => absurd hab (Fin.lt_asymm hba)) h₁ h₂
    ((List.perm_ext_iff_of_nodup (h₁.imp Fin.ne_of_lt) (h₂.imp Fin.ne_of_lt)).mpr h)

theorem toList_step (x : BB) (hx : x ≠ 0#64) (h : trailingZeros x < 64) :
    x.toList = (⟨trailingZeros x, h⟩ : Sq) :: (x &&& (x - 1#64)).toList := by
  obtain ⟨_, h2, _⟩ := tz_spec x hx
  apply sorted_ext
  · exact bb_iter_ascending x
  · rw [List.pairwise_cons]
    refine ⟨?_, bb_iter_ascending _⟩
    intro s hs
    rw [BB.mem_toList, clearLowest_has x hx] at hs
    simp only [Bool.and_eq_true, decide_eq_true_eq] at hs
    have := tz_le_of_has x hx s hs.1
    show trailingZeros x < s.val
    omega
  · intro s
    rw [List.mem_cons, BB.mem_toList, BB.mem_toList, clearLowest_has x hx]
    simp only [Bool.and_eq_true, decide_eq_true_eq]
    constructor
    · intro hs
      by_cases e : s.val = trailingZeros x
      · left; exact Fin.ext e
      · right; exact ⟨hs, e⟩
    · rintro (e | ⟨hs, _⟩)
      · subst e; exact h2
      · exact hs

theorem toList_zero : BB.toList (0#64) = [] := by
  unfold BB.toList
  rw [List.filter_eq_nil_iff]
  intro s _; simp

theorem len_step (x : BB) (hx : x ≠ 0#64) : (x &&& (x - 1#64)).len + 1 = x.len := by
  obtain ⟨h1, _, _⟩ := tz_spec x hx
  show _ = x.toList.length
  rw [toList_step x hx h1]
  rfl

theorem len_le (b : BB) : b.len ≤ 64 :=
  Nat.le_trans (List.length_filter_le _ _) (Nat.le_of_eq List.length_finRange)

/-- fuel for each member suffices -/
theorem bbIterLoop_eq : ∀ (fuel : Nat) (x : BB), x.len ≤ fuel → bbIterLoop fuel x = x.toList
  | 0, x, h => (List.eq_nil_of_length_eq_zero (Nat.le_zero.mp h)).symm
  | fuel + 1, x, h => by
    unfold bbIterLoop
    by_cases hx : x = 0#64
    · subst hx; simp [toList_zero]
    · obtain ⟨h1, _, _⟩ := tz_spec x hx
      have := len_step x hx
      simp only [if_neg hx, dif_pos h1, List.singleton_append]
      rw [toList_step x hx h1, bbIterLoop_eq fuel _ (by omega)]

/-- the iterator yields exactly the members, each once, in increasing square order -/
theorem bbIter_eq (b : BB) : bbIter b = b.toList := bbIterLoop_eq 64 b (len_le b)

theorem bbIter_mem (b : BB) (s : Sq) : s ∈ bbIter b ↔ b.has s = true := by
  rw [bbIter_eq]; exact BB.mem_toList b s
theorem bbIter_ascending (b : BB) : (bbIter b).Pairwise (· < ·) := by
  rw [bbIter_eq]; exact bb_iter_ascending b
theorem bbIter_nodup (b : BB) : (bbIter b).Nodup := by
  rw [bbIter_eq]; unfold BB.toList Sq.all
  exact List.Pairwise.filter _ (List.nodup_finRange 64)

theorem map_val_finRange (n : Nat) : (List.finRange n).map Fin.val = List.range n := by
  apply List.ext_getElem
  · simp
  · intro i h1 h2; simp

theorem popCount_eq (b : BB) : popCount b = b.len := by
  unfold popCount BB.len BB.toList Sq.all
  rw [← map_val_finRange 64, List.filter_map, List.length_map]
  rfl

theorem bbIter_length_popCount (b : BB) : (bbIter b).length = popCount b := by
  rw [bbIter_eq, popCount_eq]
  rfl

theorem getLsbD_ff (k : Nat) : (0xff#64).getLsbD k = decide (k < 8) := by
  by_cases hk : k < 64
  · have key : ∀ k : Fin 64, (0xff#64).getLsbD k.val = decide (k.val < 8) := by decide
    exact key ⟨k, hk⟩
  · rw [BitVec.getLsbD_of_ge _ _ (by omega)]
    have : ¬ k < 8 := by omega
    simp [this]

/-- `swap_bytes`: bit `8r + f` comes from bit `8(7 - r) + f` -/
theorem swapBytes_getLsbD (b : BB) (j : Nat) (hj : j < 64) :
    (swapBytes b).getLsbD j = b.getLsbD (8 * (7 - j / 8) + j % 8) := by
  unfold swapBytes
  rw [BB.getLsbD_foldl_or, Bool.eq_iff_iff]
  simp only [BitVec.getLsbD_zero, Bool.false_or, List.any_eq_true, List.mem_range,
    BitVec.getLsbD_shiftLeft, BitVec.getLsbD_and, BitVec.getLsbD_ushiftRight, getLsbD_ff,
    Bool.and_eq_true, decide_eq_true_eq, Bool.not_eq_true', decide_eq_false_iff_not]
  constructor
  · rintro ⟨i, hi, ⟨_, h1⟩, h2, h3⟩
    have : 8 * i + (j - 8 * (7 - i)) = 8 * (7 - j / 8) + j % 8 := by omega
    rw [← this]; exact h2
  · intro h
    refine ⟨7 - j / 8, by omega, ⟨hj, by omega⟩, ?_, by omega⟩
    have : 8 * (7 - j / 8) + (j - 8 * (7 - (7 - j / 8))) = 8 * (7 - j / 8) + j % 8 := by omega
    rw [this]; exact h

/-- `reverse_bits`: bit `j` comes from bit `63 - j` -/
theorem reverseBits_getLsbD (b : BB) (j : Nat) (hj : j < 64) :
    (reverseBits b).getLsbD j = b.getLsbD (63 - j) := by
  unfold reverseBits
  rw [BB.getLsbD_foldl_or_if, Bool.eq_iff_iff]
  simp only [BitVec.getLsbD_zero, Bool.false_or, List.any_eq_true, List.mem_range,
    BitVec.getLsbD_shiftLeft, BitVec.getLsbD_one,
    Bool.and_eq_true, decide_eq_true_eq, Bool.not_eq_true', decide_eq_false_iff_not]
  constructor
  · rintro ⟨i, hi, h1, ⟨_, h2⟩, _, h3⟩
    have : 63 - j = i := by omega
    rw [this]; exact h1
  · intro h
    exact ⟨63 - j, by omega, h, ⟨hj, by omega⟩, by omega, by omega⟩

theorem flipRank_val : ∀ s : Sq, s.flipRank.val = 8 * (7 - s.val / 8) + s.val % 8 := by decide
theorem flipFile_val : ∀ s : Sq, s.flipFile.val = 63 - (8 * (7 - s.val / 8) + s.val % 8) := by decide

theorem flippedRank_has (b : BB) (s : Sq) : (flippedRank b).has s = b.has s.flipRank := by
  unfold flippedRank BB.has
  rw [swapBytes_getLsbD b s.val s.isLt, flipRank_val]

theorem flippedFile_has (b : BB) (s : Sq) : (flippedFile b).has s = b.has s.flipFile := by
  unfold flippedFile BB.has
  rw [swapBytes_getLsbD _ s.val s.isLt, reverseBits_getLsbD _ _ (by have := s.isLt; omega), flipFile_val]

theorem flippedRank_flippedRank (b : BB) : flippedRank (flippedRank b) = b := by
  apply BB.ext_has; intro s
  rw [flippedRank_has, flippedRank_has, Sq.flipRank_flipRank]

theorem flippedFile_flippedFile (b : BB) : flippedFile (flippedFile b) = b := by
  apply BB.ext_has; intro s
  rw [flippedFile_has, flippedFile_has, Sq.flipFile_flipFile]

/-- number of members of `mask` strictly below `s`: the position of `s` among the members -/
def rankIn (mask : BB) (s : Sq) : Nat :=
  (Sq.all.filter fun t => mask.has t && decide (t.val < s.val)).length

/-- `x & -x` is the singleton of the lowest member -/
theorem isolateLowest_has (x : BB) (hx : x ≠ 0#64) (s : Sq) :
    (x &&& (0#64 - x)).has s = decide (s.val = trailingZeros x) := by
  obtain ⟨_, h2, _⟩ := tz_spec x hx
  have h := above_iff_ne x hx s
  rw [BitVec.zero_sub, BB.has_and, neg_has x hx]
  by_cases e : s.val = trailingZeros x
  · have : x.has s = true := by unfold BB.has; rw [e]; exact h2
    simp [e, this]
  · revert h; cases x.has s <;> simp [e]

theorem and_one_ne_zero (x : BB) : (x &&& 1#64 ≠ 0#64) ↔ x.getLsbD 0 = true := by
  rw [Ne, ← BitVec.toNat_inj, BitVec.toNat_and, BitVec.getLsbD, Nat.testBit_zero]
  simp [Nat.and_one_is_mod]

/-- `x ^ (x & -x)` strips the lowest member like `x & (x - 1)` -/
theorem strip_xor (x : BB) (hx : x ≠ 0#64) : x ^^^ (x &&& (0#64 - x)) = x &&& (x - 1#64) := by
  obtain ⟨_, h2, _⟩ := tz_spec x hx
  apply BB.ext_has; intro s
  rw [BB.has_xor, isolateLowest_has x hx, clearLowest_has x hx]
  by_cases e : s.val = trailingZeros x
  · have : x.has s = true := by unfold BB.has; rw [e]; exact h2
    simp [e, this]
  · simp [e]

theorem rankIn_eq (mask : BB) (s : Sq) :
    rankIn mask s = (mask.toList.filter fun t => decide (t.val < s.val)).length := by
  unfold rankIn BB.toList
  rw [List.filter_filter]
  congr 1
  apply List.filter_congr
  intro t _
  exact Bool.and_comm _ _

theorem rankIn_step (msk : BB) (hm : msk ≠ 0#64) (s : Sq) :
    rankIn msk s = (if trailingZeros msk < s.val then 1 else 0) + rankIn (msk &&& (msk - 1#64)) s := by
  obtain ⟨h1, _, _⟩ := tz_spec msk hm
  rw [rankIn_eq, rankIn_eq, toList_step msk hm h1, List.filter_cons]
  by_cases h : trailingZeros msk < s.val <;> simp [h, Nat.add_comm]

theorem sorted_rank : ∀ (l : List Sq), l.Pairwise (· < ·) → ∀ (i : Nat) (h : i < l.length),
    (l.filter fun t => decide (t.val < (l[i]).val)).length = i
  | [], _, i, h => by simp at h
  | a :: l, hp, 0, _ => by
    rw [List.pairwise_cons] at hp
    rw [List.length_eq_zero_iff, List.filter_eq_nil_iff]
    intro t ht
    rw [List.mem_cons] at ht
    simp only [List.getElem_cons_zero, decide_eq_true_eq]
    rcases ht with e | ht
    · subst e; exact Nat.lt_irrefl _
    · have : a.val < t.val := hp.1 t ht
      omega
  | a :: l, hp, i + 1, h => by
    rw [List.pairwise_cons] at hp
    have hi : i < l.length := by simpa using h
    have lt : a.val < (l[i]).val := hp.1 _ (List.getElem_mem hi)
    simp only [List.getElem_cons_succ, List.filter_cons, lt, decide_true, if_true, List.length_cons]
    rw [sorted_rank l hp.2 i hi]

theorem rankIn_nth (mask : BB) (i : Nat) (h : i < mask.toList.length) :
    rankIn mask (mask.toList[i]) = i := by
  rw [rankIn_eq]
  exact sorted_rank mask.toList (bb_iter_ascending mask) i h

theorem rankIn_tz (msk : BB) (hm : msk ≠ 0#64) (h1 : trailingZeros msk < 64) :
    rankIn msk ⟨trailingZeros msk, h1⟩ = 0 := by
  have h0 : 0 < msk.toList.length := by rw [toList_step msk hm h1]; simp
  simpa [toList_step msk hm h1] using rankIn_nth msk 0 h0

/-- the position of a member is below the number of members, so `depositBits_has` reads only the low `mask.len` bits
of the argument -/
theorem rankIn_lt_len (mask : BB) (s : Sq) (hs : mask.has s = true) : rankIn mask s < mask.len := by
  rw [rankIn_eq]
  exact List.length_filter_lt_length_iff_exists.mpr ⟨s, (BB.mem_toList mask s).2 hs, by simp⟩

theorem depositLoop_has : ∀ (fuel : Nat) (msk x res : BB), msk.len ≤ fuel → ∀ s : Sq,
    (depositLoop fuel msk x res).has s
      = (res.has s || (msk.has s && x.getLsbD (rankIn msk s)))
  | 0, msk, x, res, h, s => by
    have : msk.has s = false := by
      rw [Bool.eq_false_iff, Ne, ← BB.mem_toList, List.eq_nil_of_length_eq_zero (Nat.le_zero.mp h)]
      simp
    simp [depositLoop, this]
  | fuel + 1, msk, x, res, h, s => by
    unfold depositLoop
    by_cases hm : msk = 0#64
    · subst hm; simp
    · obtain ⟨h1, h2, _⟩ := tz_spec msk hm
      have := len_step msk hm
      have hres : (if x &&& 1#64 ≠ 0#64 then res ||| (msk &&& (0#64 - msk)) else res).has s
          = (res.has s || (x.getLsbD 0 && decide (s.val = trailingZeros msk))) := by
        by_cases hb : x.getLsbD 0 = true
        · rw [if_pos ((and_one_ne_zero x).2 hb), BB.has_or, isolateLowest_has msk hm, hb]; simp
        · have : ¬ (x &&& 1#64 ≠ 0#64) := fun h => hb ((and_one_ne_zero x).1 h)
          rw [if_neg this, Bool.eq_false_iff.2 hb]; simp
      simp only [if_neg hm]
      rw [strip_xor msk hm, depositLoop_has fuel _ _ _ (by omega), clearLowest_has msk hm,
        BitVec.getLsbD_ushiftRight, hres]
      by_cases e : s.val = trailingZeros msk
      · have hs : msk.has s = true := by unfold BB.has; rw [e]; exact h2
        have hr : rankIn msk s = 0 := by rw [Fin.ext e (b := ⟨trailingZeros msk, h1⟩)]; exact rankIn_tz msk hm h1
        simp [e, hs, hr]
      · rw [rankIn_step msk hm s]
        by_cases hs : msk.has s = true
        · have q1 := tz_le_of_has msk hm s hs
          have : trailingZeros msk < s.val := by omega
          simp [e, hs, this]
        · simp [e, hs]

/-- the `i`-th lowest bit of `x` lands on the `i`-th lowest member of `mask`; nothing else is set -/
theorem depositBits_has (mask x : BB) (s : Sq) :
    (depositBits mask x).has s = (mask.has s && x.getLsbD (rankIn mask s)) := by
  unfold depositBits
  rw [depositLoop_has 64 mask x 0#64 (len_le mask) s]
  simp

theorem depositBits_subset (mask x : BB) : depositBits mask x &&& ~~~ mask = 0#64 := by
  apply BB.ext_has; intro s
  rw [BB.has_and, BB.has_not, depositBits_has]
  cases mask.has s <;> simp

theorem depositBits_allOnes (mask : BB) : depositBits mask (BitVec.allOnes 64) = mask := by
  apply BB.ext_has; intro s
  rw [depositBits_has, BitVec.getLsbD_allOnes]
  cases hs : mask.has s with
  | false => simp
  | true =>
    have h1 := rankIn_lt_len mask s hs
    have h2 := len_le mask
    have : rankIn mask s < 64 := by omega
    simp [this]

theorem depositBits_zero (mask : BB) : depositBits mask 0#64 = 0#64 := by
  apply BB.ext_has; intro s
  rw [depositBits_has]; simp

/-- PDEP, positional form: bit `i` of `x` is written to the `i`-th lowest member of `mask` -/
theorem depositBits_nth (mask x : BB) (i : Nat) (h : i < mask.toList.length) :
    (depositBits mask x).has (mask.toList[i]) = x.getLsbD i := by
  rw [depositBits_has, rankIn_nth mask i h]
  have : mask.has (mask.toList[i]) = true := (BB.mem_toList mask _).1 (List.getElem_mem h)
  rw [this]; rfl

/-! non-vacuity: concrete runs of the modelled loops -/
example : bbIter 0x8100000000000081#64 = [⟨0, by decide⟩, ⟨7, by decide⟩, ⟨56, by decide⟩, ⟨63, by decide⟩] := by
  decide +kernel
example : popCount 0x8100000000000081#64 = 4 := by decide +kernel
example : flippedRank 0x00000000000000ff#64 = 0xff00000000000000#64 := by decide +kernel
example : flippedFile 0x0101010101010101#64 = 0x8080808080808080#64 := by decide +kernel
example : depositBits 0x00000000000000f0#64 0x5#64 = 0x50#64 := by decide +kernel
example : depositBits 0x8100000000000081#64 0xa#64 = 0x8000000000000080#64 := by decide +kernel

end Owl.Props.C20
