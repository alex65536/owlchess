/-
C04 (continued): the theorems behind the driver's object prefixes (DESIGN §11.5, PROTOCOL "Object prefixes").
`restored_is_original`, `restored_null_is_original` — a board on which a well-formed semilegal move (legal or not) or the
null move was made in place and taken back IS the original board, derived sets and hash included (so `restored MV <case>`
is answered for the original position); `reached_validates` — the board a legal move produces from a valid board is
exactly what the validation gate builds from its raw contents (so `reached MV <case>` is answered for the raw board
after the move); `valid_null`, `null_validates` — the same for the null move made when the side to move is not in check
(`via n <case>`).
-/
import OwlModel.Props.C04
import OwlModel.Props.C02
namespace Owl.Props.C04
open Owl Owl.Impl Owl.Lemmas Owl.Props

theorem restored_is_original (b : Board) (hv : Valid b) (mv : Move) (hwf : mv.isWellFormed = true)
    (hsl : isSemilegal b mv = true) : unmakeMove (makeMove b mv).1 mv (makeMove b mv).2 = b :=
  C02.refusal_restores b mv hv hwf hsl

theorem restored_null_is_original (b : Board) (hv : Valid b) :
    unmakeMove (makeMove b Move.null).1 Move.null (makeMove b Move.null).2 = b :=
  undo_null b hv.shape.cons

theorem reached_validates (b : Board) (hv : Valid b) (mv : Move) (hwf : mv.isWellFormed = true)
    (hsl : isSemilegal b mv = true) (hleg : isLegalUnchecked? b mv = some true) :
    validate (makeMove b mv).1.r = .ok (makeMove b mv).1 :=
  (valid_iff_validate _).mp (valid_make b mv hv hwf hsl hleg)

theorem makeOk_null (b : Board) : MakeOk b Move.null := by simp [MakeOk, Move.null]

theorem null_cells (b : Board) : (makeMove b Move.null).1.r.cells = b.r.cells := by
  rw [make_cells, makeBody_cells, clearEp_cells]; rfl

theorem null_get (b : Board) (t : Sq) : (makeMove b Move.null).1.get t = b.get t :=
  congrArg (·.get t) (null_cells b)

theorem null_rget (b : Board) (t : Sq) : (makeMove b Move.null).1.r.get t = b.r.get t := null_get b t

theorem null_side (b : Board) : (makeMove b Move.null).1.r.side = b.r.side.inv := make_side b _

theorem null_ep (b : Board) : (makeMove b Move.null).1.r.ep = none := by
  rw [make_ep]; rfl

theorem null_castling (b : Board) : (makeMove b Move.null).1.r.castling = b.r.castling := by
  rw [make_castling, (makeBody_header ..).1, clearEp_castling]; rfl

theorem null_pieces (b : Board) : (makeMove b Move.null).1.pieces = b.pieces := by
  unfold makeMove makeBody
  simp only [Move.null, refreshAll_pieces, xorHash_pieces, setTurn_pieces, clearEp_pieces]

theorem null_all (b : Board) (hb : Consistent b) : (makeMove b Move.null).1.all = b.all :=
  BB.ext_has fun t => by rw [all_has _ (make_consistent b Move.null hb (makeOk_null b)), all_has b hb, null_get]

/-- the attack query reads only the occupancy sets, which the null move leaves alone -/
theorem null_isCellAttacked (b : Board) (hb : Consistent b) (s : Sq) (c : Color) :
    isCellAttacked (makeMove b Move.null).1 s c = isCellAttacked b s c := by
  unfold isCellAttacked Board.pieceDiag Board.pieceLine Board.piece2
  rw [null_pieces, null_all b hb]

theorem shape_null (b : Board) (hs : Shape b) : Shape (makeMove b Move.null).1 := by
  refine ⟨make_consistent b Move.null hs.cons (makeOk_null b), ?_, ?_⟩
  · intro c s h
    rw [null_castling] at h
    rw [null_rget, null_rget]
    exact hs.rights c s h
  · intro p hp
    rw [null_ep] at hp
    cases hp

/-- the null move made when the side to move is not in check leads from a valid board to a valid board -/
theorem valid_null (b : Board) (hv : Valid b) (hnc : isCheck? b = some false) : Valid (makeMove b Move.null).1 := by
  have hg : (makeMove b Move.null).1.get = b.get := funext (null_get b)
  refine ⟨shape_null b hv.shape, checks_of_cells (hg ▸ hv.checks.cells) fun k hk => ?_⟩
  rw [null_get, null_side, Color.inv_inv] at hk
  rw [null_side, null_isCellAttacked b hv.shape.cons]
  have hkp := kingPos_of b hv.shape.cons b.r.side k hk fun _ => hv.checks.king_eq hk
  unfold isCheck? at hnc
  rw [hkp] at hnc
  exact Option.some.inj hnc

theorem null_validates (b : Board) (hv : Valid b) (hnc : isCheck? b = some false) :
    validate (makeMove b Move.null).1.r = .ok (makeMove b Move.null).1 :=
  (valid_iff_validate _).mp (valid_null b hv hnc)

/-- what the null move does to the remaining raw fields -/
theorem null_mn (b : Board) :
    (makeMove b Move.null).1.r.mn = if b.r.side = .black then satInc b.r.mn else b.r.mn := make_mn b _

theorem null_mc (b : Board) :
    (makeMove b Move.null).1.r.mc = if b.get 0 ≠ Cell.empty then 0 else satInc b.r.mc := by
  rw [make_mc]
  have h : (Move.null.cell = Cell.mk b.r.side .pawn) = False := by
    apply eq_false; intro e; exact mk_ne_zero _ _ e.symm
  simp only [h, decide_false, Bool.or_false, decide_eq_true_eq]
  rfl

/-! non-vacuity: the initial position meets the hypotheses of `valid_null` and `null_validates` -/

theorem initial_not_check : isCheck? (buildBoard initialRaw) = some false := by decide +kernel

example : Valid (makeMove (buildBoard initialRaw) Move.null).1 :=
  valid_null _ initial_valid initial_not_check

example : validate (makeMove (buildBoard initialRaw) Move.null).1.r = .ok (makeMove (buildBoard initialRaw) Move.null).1 :=
  null_validates _ initial_valid initial_not_check

/-- NOTE for the driver: in the model the null move RESETS the half-move clock when square 0 is occupied
(`dstCell = b.get Move.null.dst = b.get 0`), see `null_mc`; from the initial position (clock 0, a rook on square 0)
the clock stays 0 instead of becoming 1, while from a board with square 0 empty it is `satInc`. -/
example : (makeMove (buildBoard initialRaw) Move.null).1.r.mc = 0 := by decide +kernel
example : (makeMove (buildBoard initialRaw) Move.null).1.r.side = .black := by decide +kernel
example : (makeMove (buildBoard initialRaw) Move.null).1.r.ep = none := by decide +kernel

end Owl.Props.C04
