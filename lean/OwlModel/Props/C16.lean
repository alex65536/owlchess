/-
C16  Attack and check queries agree with the rules on every position.
`abs` maps the raw board to the specification's mailbox position; `Spec.attacks p s t` says the man on `s`
attacks `t` by its capturing pattern (pawns diagonally forward, knight/king steps, sliders along a ray walk).
-/
import OwlModel.Lemmas.Attacks
import OwlModel.Props.C04

namespace Owl.Props.C16
open Owl Owl.Impl Owl.Lemmas

/-- the attackers query returns exactly the men of that colour that attack the square -/
theorem cell_attackers_exact (b : Board) (hb : Consistent b) (t : Sq) (c : Color) (s : Sq) :
    (cellAttackers b t c).has s = true ↔
      (∃ m, (abs b.r).get s = some m ∧ m.color = c) ∧ Spec.attacks (abs b.r) s t = true := by
  rw [cellAttackers_has b hb]
  cases h : (abs b.r).get s with
  | none => simp
  | some m => simp

/-- 'is this square attacked by that colour' is true exactly when some man of that colour attacks it -/
theorem is_cell_attacked_iff (b : Board) (hb : Consistent b) (t : Sq) (c : Color) :
    isCellAttacked b t c = Spec.attackedBy (abs b.r) t c := isCellAttacked_iff b hb t c

/-- for every position produced by the validation gate -/
theorem is_cell_attacked_valid (raw : RawBoard) (b : Board) (hv : validate raw = .ok b) (t : Sq) (c : Color) :
    isCellAttacked b t c = Spec.attackedBy (abs b.r) t c :=
  isCellAttacked_iff b (C04.validate_consistent raw b hv) t c

/-- `king_pos` is the square of that colour's king -/
theorem king_pos_eq (b : Board) (hb : Consistent b) (c : Color) : b.kingPos? c = Spec.kingSq (abs b.r) c :=
  kingPos_eq b hb c

/-- 'is in check' is true exactly when the king of the side to move is attacked by the other side -/
theorem is_check_iff (b : Board) (hb : Consistent b) :
    isCheck? b = (Spec.kingSq (abs b.r) b.r.side).map fun k => Spec.attackedBy (abs b.r) k b.r.side.inv :=
  isCheck_eq b hb

theorem is_check_eq_inCheck (b : Board) (hb : Consistent b) (k : Sq) (hk : Spec.kingSq (abs b.r) b.r.side = some k) :
    isCheck? b = some (Spec.inCheck (abs b.r) b.r.side) := by
  rw [isCheck_eq b hb, hk]
  simp [Spec.inCheck, hk]

/-- `is_opponent_king_attacked` is true exactly when the king of the side that has just moved is attacked by the side to move -/
theorem is_opponent_king_attacked_iff (b : Board) (hb : Consistent b) :
    isOpponentKingAttacked? b =
      (Spec.kingSq (abs b.r) b.r.side.inv).map fun k => Spec.attackedBy (abs b.r) k b.r.side :=
  isOpponentKingAttacked_eq b hb

/-- the checkers query returns exactly the checking men -/
theorem checkers_exact (b : Board) (hb : Consistent b) (s : Sq) :
    (checkers? b).map (fun bb => bb.has s) =
      (Spec.kingSq (abs b.r) b.r.side).map fun k =>
        (((abs b.r).get s).any (fun m => m.color == b.r.side.inv) && Spec.attacks (abs b.r) s k) :=
  checkers_eq b hb s

/-- the early-out query and the set query are the same question, on every board (no hypothesis): `is_cell_attacked`
is true exactly when `cell_attackers` is non-empty -/
theorem is_cell_attacked_eq_attackers (b : Board) (t : Sq) (c : Color) :
    isCellAttacked b t c = (cellAttackers b t c).nonEmpty := isCellAttacked_eq b t c

/-- `is_check` is true exactly when `checkers` is non-empty, on every board (both panic together when the king is absent) -/
theorem is_check_eq_checkers (b : Board) : isCheck? b = (checkers? b).map BB.nonEmpty := by
  unfold isCheck? checkers?
  cases b.kingPos? b.r.side with
  | none => rfl
  | some k => simp [isCellAttacked_eq]

/-- so on a consistent board `is_check` holds iff some man is reported as a checker -/
theorem is_check_iff_exists_checker (b : Board) (bb : BB) (h : checkers? b = some bb) :
    isCheck? b = some true ↔ ∃ s : Sq, bb.has s = true := by
  rw [is_check_eq_checkers, h]
  simp [nonEmpty_iff]

/-- line attacks are symmetric for every occupancy (all 2^64): a rook on `s` hits `t` iff a rook on `t` hits `s`; this is
what lets `is_cell_attacked` look outward from the target square instead of from every attacker -/
theorem rook_attack_symm (s t : Sq) (occ : BB) :
    (rookAttack s occ).has t = true ↔ (rookAttack t occ).has s = true :=
  Line.rook.attack_symm s t occ

theorem bishop_attack_symm (s t : Sq) (occ : BB) :
    (bishopAttack s occ).has t = true ↔ (bishopAttack t occ).has s = true :=
  Line.bishop.attack_symm s t occ

/-! non-vacuity: in the initial position White attacks e3 (square 44), by the pawns on d2 and f2, in the model and in the
specification -/
example : isCellAttacked (buildBoard C04.initialRaw) ⟨44, by decide⟩ .white = true := by decide +kernel
example : Spec.attackedBy (abs C04.initialRaw) ⟨44, by decide⟩ .white = true := by decide +kernel

/-- the hypothesis of `is_check_iff_exists_checker` is met (the start position has a king, and nobody checks it) -/
example : checkers? (buildBoard C04.initialRaw) = some 0#64 := by decide +kernel
example : isCheck? (buildBoard C04.initialRaw) = some false := by decide +kernel

/-- symmetry instance: with only squares 0 and 56 (the two ends of the a-file) occupied, rooks there see each other -/
example : (rookAttack ⟨0, by decide⟩ (1#64 ||| (1#64 <<< 56))).has ⟨56, by decide⟩ = true
    ∧ (rookAttack ⟨56, by decide⟩ (1#64 ||| (1#64 <<< 56))).has ⟨0, by decide⟩ = true := by decide +kernel

end Owl.Props.C16
