/-
C10  UCI move text round-trips and is accepted exactly when such a move exists.
`uci_move_roundtrip` is the per-position, per-move statement (kind inference recovers castling, double step, en
passant and each promotion); `uci_parse_lang` says the reader's language is exactly the writer's image;
`uci_semilegal_iff` / `uci_legal_iff` say the checking readers succeed exactly on the strings that spell an existing
semilegal / legal move and return that move; `uci_null_refused` covers "0000".
"Legal" here is the implementation's own `is_legal_unchecked`; that this agrees with the rules is C01/C02.
-/
import OwlModel.Props.C12
import OwlModel.Props.C20

namespace Owl.Props.C10
open Owl Owl.Impl Owl.Lemmas Owl.Props

/-- kind inference is right on every semilegal move: each constructor of `Semi` fixes the branch `do_into_move` takes.
`hep`: the en-passant destination is free (on a board in shape). -/
theorem _root_.Owl.Lemmas.Semi.uciIntoMove {b : Board} {k : Kind} {p : Piece} {s d : Sq} (h : Semi b k p s d)
    (hsrc : b.get s = Cell.mk b.r.side p) (hep : k = .ep → (b.get d).isFree = true) :
    uciIntoMove (.move s d k.promote) b = Move.new? k (b.get s) s d := by
  have hp : (b.get s).piece = some p := by rw [hsrc]; exact piece_mk _ _
  unfold Impl.uciIntoMove
  simp only
  rw [if_neg (by simp [hsrc, color_mk])]
  congr 1
  cases h with
  | promo hk _ _ _ =>
    obtain ⟨q, hq⟩ := Option.isSome_iff_exists.mp hk
    rw [hq]; exact promote_kind_of _ _ hq
  | piece hg _ =>
    simp only [Kind.promote, hp]
    cases p
    case pawn => cases hg
    case king =>
      obtain ⟨n1, n2⟩ := king_step_not_castle b.r.side
      have hka : (kingAttack s).has d = true := hg
      simp only
      split
      · rename_i he
        rw [he] at hka
        rw [if_neg (fun e => by rw [e, n1] at hka; cases hka), if_neg (fun e => by rw [e, n2] at hka; cases hka)]
      · rfl
    all_goals rfl
  | pawn _ _ _ _ hst hto =>
    have hnd := step_not_double _ _ _ hst
    have hnep : ¬ (s.file ≠ d.file ∧ (b.get d).isFree = true) := by
      rintro ⟨h1, h2⟩
      rcases hto with ⟨hf, _⟩ | ⟨_, hc⟩
      · exact h1 hf
      · rw [isFree_eq _ h2] at hc; cases hc
    simp only [Kind.promote, hp, Bool.and_eq_true, decide_eq_true_eq, hnd, hnep, if_false]
  | double _ h1 h2 => simp only [Kind.promote, hp, h1, h2, decide_true, Bool.and_self, if_true]
  | ep q hr _ hfd =>
    have hnd : ¬ (s.rank = doubleSrcRank b.r.side) := by rw [hr]; exact (double_ne_ep _).symm
    simp only [Kind.promote, hp, hnd, decide_false, Bool.false_and, Bool.false_eq_true, if_false, ne_eq,
      file_ne_of_diff hfd, not_false_eq_true, hep rfl, decide_true, Bool.and_self, if_true]
  | castleK h1 h2 => subst h1 h2; simp only [Kind.promote, hp, if_true]
  | castleQ h1 h2 => subst h1 h2; simp only [Kind.promote, hp, if_true, mk_file_ne fileC fileG _ (by decide), if_false]

/-- C10: writing a semilegal move in coordinate notation and reading it back in the same position gives the same
move, including its kind -/
theorem uci_move_roundtrip (b : Board) (mv : Move) (hs : Shape b) (hwf : mv.isWellFormed = true)
    (hsl : isSemilegal b mv = true) : uciIntoMove (uciOfMove mv) b = some mv := by
  obtain ⟨piece, hcell, hsrc, -, -, hS⟩ := (sl_iff b mv).mp ⟨hwf, hsl⟩
  have hfree : mv.kind = .ep → (b.get mv.dst).isFree = true := fun hk => by
    have ok := makeOk_of_semilegal b mv hs hwf hsl
    unfold MakeOk at ok
    simp only [hk] at ok
    rw [ok.2.1]; rfl
  unfold uciOfMove
  rw [if_neg (semilegal_base b mv hsl).1, hS.uciIntoMove (hsrc.trans hcell) hfree, hsrc]
  exact new?_wf _ _ _ _ hwf

/-- the reader accepts exactly the strings the writer produces -/
theorem uci_parse_lang (s : Bytes) (u : UciMove) : parseUci s = .ok u ↔ (C12.UciShape u ∧ s = fmtUci u) := by
  constructor
  · exact (parseUci_post s).of_ok
  · intro ⟨hs, e⟩
    subst e
    cases u with
    | null => decide
    | move src dst p => exact C12.uci_reparse_move src dst p hs

/-- what the kind-inferring reader returns: a well-formed move with the written source, destination and promotion -/
theorem uciIntoMove_some (b : Board) (src dst : Sq) (p : Option Piece) (mv : Move)
    (hp : C12.UciShape (.move src dst p)) (h : uciIntoMove (.move src dst p) b = some mv) :
    mv.isWellFormed = true ∧ uciOfMove mv = .move src dst p := by
  unfold uciIntoMove at h
  simp only at h
  split at h
  · cases h
  obtain ⟨e, hw⟩ := new?_some _ _ _ _ _ h
  refine ⟨hw, ?_⟩
  unfold C12.UciShape at hp
  subst e
  unfold uciOfMove
  simp only
  rcases hp with hp | hp | hp | hp | hp <;> subst hp
  · simp only
    repeat' split
    all_goals first
      | (rename_i hh; cases hh; done)
      | simp [Kind.promote]
  all_goals simp [promoteKind, Kind.promote]

/-- the plain reader returns a given semilegal move exactly if that move is well-formed and written that way -/
theorem moveFromUci_iff (b : Board) (hs : Shape b) (s : Bytes) (src dst : Sq) (p : Option Piece)
    (hparse : parseUci s = .ok (.move src dst p)) (mv : Move) (hsl : isSemilegal b mv = true) :
    moveFromUci s b = .ok mv ↔ (mv.isWellFormed = true ∧ uciOfMove mv = .move src dst p) := by
  unfold moveFromUci
  rw [hparse]
  simp only
  constructor
  · intro h
    cases hu : uciIntoMove (.move src dst p) b with
    | none => rw [hu] at h; cases h
    | some m =>
      rw [hu] at h
      cases h
      exact uciIntoMove_some b src dst p mv (C12.parseUci_shape s _ hparse) hu
  · intro ⟨hw, he⟩
    rw [← he, uci_move_roundtrip b mv hs hw hsl]

/-- C10: the semilegal-checking reader succeeds exactly when a semilegal move with that source, destination and
promotion exists, and then returns it -/
theorem uci_semilegal_iff (b : Board) (hs : Shape b) (s : Bytes) (src dst : Sq) (p : Option Piece)
    (hparse : parseUci s = .ok (.move src dst p)) (mv : Move) :
    moveFromUciSemilegal s b = .ok mv ↔
      (mv.isWellFormed = true ∧ isSemilegal b mv = true ∧ uciOfMove mv = .move src dst p) := by
  unfold moveFromUciSemilegal
  constructor
  · intro h
    cases hm : moveFromUci s b with
    | err e => rw [hm] at h; cases h
    | trap w => rw [hm] at h; cases h
    | ok m =>
      rw [hm] at h
      simp only at h
      split at h
      · rename_i hsl
        cases h
        obtain ⟨hw, he⟩ := (moveFromUci_iff b hs s src dst p hparse mv hsl).mp hm
        exact ⟨hw, hsl, he⟩
      · cases h
  · intro ⟨hw, hsl, he⟩
    rw [(moveFromUci_iff b hs s src dst p hparse mv hsl).mpr ⟨hw, he⟩]
    simp only [hsl, if_true]

/-- C10: the same for the legal-checking reader -/
theorem uci_legal_iff (b : Board) (hs : Shape b) (s : Bytes) (src dst : Sq) (p : Option Piece)
    (hparse : parseUci s = .ok (.move src dst p)) (mv : Move) :
    moveFromUciLegal s b = .ok mv ↔
      (mv.isWellFormed = true ∧ isSemilegal b mv = true ∧ isLegalUnchecked? b mv = some true
        ∧ uciOfMove mv = .move src dst p) := by
  unfold moveFromUciLegal
  constructor
  · intro h
    cases hm : moveFromUci s b with
    | err e => rw [hm] at h; cases h
    | trap w => rw [hm] at h; cases h
    | ok m =>
      rw [hm] at h
      simp only at h
      split at h
      · rename_i hv
        cases h
        obtain ⟨hsl, hl⟩ := (validateMove_ok b mv).mp hv
        obtain ⟨hw, he⟩ := (moveFromUci_iff b hs s src dst p hparse mv hsl).mp hm
        exact ⟨hw, hsl, hl, he⟩
      · cases h
      · cases h
  · intro ⟨hw, hsl, hl, he⟩
    rw [(moveFromUci_iff b hs s src dst p hparse mv hsl).mpr ⟨hw, he⟩]
    simp only [(validateMove_ok b mv).mpr ⟨hsl, hl⟩]

/-- C10: the null move is never accepted as a move to play -/
theorem uci_null_refused (b : Board) (s : Bytes) (h : parseUci s = .ok .null) :
    moveFromUciSemilegal s b = .err (.validate .notSemiLegal)
      ∧ moveFromUciLegal s b = .err (.validate .notSemiLegal) := by
  have hn : isSemilegal b Move.null = false :=
    Bool.eq_false_iff.mpr fun h => (semilegal_base b _ h).1 rfl
  unfold moveFromUciSemilegal moveFromUciLegal moveFromUci validateMove
  rw [h]
  simp [uciIntoMove, hn]

/-- the first of them for a position that came through the validation gate, as one round trip through the text -/
theorem uci_roundtrip_valid (raw : RawBoard) (b : Board) (hv : validate raw = .ok b) (mv : Move)
    (hwf : mv.isWellFormed = true) (hsl : isSemilegal b mv = true) :
    moveFromUciSemilegal (fmtUci (uciOfMove mv)) b = .ok mv := by
  have hs := validate_shape raw b hv
  have hk : mv.kind ≠ .null := (semilegal_base b mv hsl).1
  have hu : uciOfMove mv = .move mv.src mv.dst mv.kind.promote := by unfold uciOfMove; rw [if_neg hk]
  have hshape : C12.UciShape (.move mv.src mv.dst mv.kind.promote) := by
    unfold C12.UciShape; cases mv.kind <;> simp [Kind.promote]
  have hparse : parseUci (fmtUci (uciOfMove mv)) = .ok (.move mv.src mv.dst mv.kind.promote) := by
    rw [hu]; exact (uci_parse_lang _ _).mpr ⟨hshape, rfl⟩
  exact (uci_semilegal_iff b hs _ _ _ _ hparse mv).mpr ⟨hwf, hsl, hu⟩

/-! non-vacuity: 1. e4 in the initial position, and the refusal of "0000" -/
example : moveFromUciSemilegal [101, 50, 101, 52] (buildBoard C04.initialRaw) = .ok ⟨.double, 1, 52, 36⟩ := by
  decide +kernel
example : moveFromUciLegal [48, 48, 48, 48] (buildBoard C04.initialRaw) = .err (.validate .notSemiLegal) := by
  decide +kernel

end Owl.Props.C10
