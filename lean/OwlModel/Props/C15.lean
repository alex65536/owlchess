/-
C15  Attack and between tables are exact for every square and every occupancy.
Property theorems only; helper lemmas live in OwlModel/Lemmas. The tables are the ones the
translator extracted from the build under test (OwlModel/Gen).
-/
import OwlModel.Lemmas.Between

namespace Owl.Props.C15
open Owl Owl.Lemmas

/-- rook lines: for every square and every one of the 2^64 occupancies, the lookup contains exactly the
squares reached by sliding in each of the four directions up to and including the first occupied one -/
theorem rook_lookup_exact (s : Sq) (occ : BB) (t : Sq) :
    (Impl.rookAttack s occ).has t = true ↔ t ∈ Spec.slide Spec.rookDirs (fun x => occ.has x) s :=
  Line.rook.attack_iff s occ t

/-- bishop lines -/
theorem bishop_lookup_exact (s : Sq) (occ : BB) (t : Sq) :
    (Impl.bishopAttack s occ).has t = true ↔ t ∈ Spec.slide Spec.bishopDirs (fun x => occ.has x) s :=
  Line.bishop.attack_iff s occ t

/-- king, knight and pawn attack sets equal their geometric definitions -/
theorem king_table_exact (s t : Sq) :
    (Impl.kingAttack s).has t = true ↔ ∃ d ∈ Spec.kingSteps, Spec.step s d = some t := by
  rw [(near_check_sq s).1]; simp [stepsOf]

theorem knight_table_exact (s t : Sq) :
    (Impl.knightAttack s).has t = true ↔ ∃ d ∈ Spec.knightSteps, Spec.step s d = some t := by
  rw [(near_check_sq s).2.1]; simp [stepsOf]

theorem pawn_table_exact (c : Color) (s t : Sq) :
    (Impl.pawnAttack c s).has t = true ↔
      (Spec.step s (-1, Spec.forward c) = some t ∨ Spec.step s (1, Spec.forward c) = some t) := by
  cases c
  · rw [(near_check_sq s).2.2.1]; simp [stepsOf, pawnSteps]
  · rw [(near_check_sq s).2.2.2]; simp [stepsOf, pawnSteps]

/-- alignment predicates are exact for every pair of squares -/
theorem rook_valid_iff (a b : Sq) :
    Impl.isRookValid a b = true ↔ (Spec.between Spec.rookDirs a b).isSome = true := by
  rw [rook_valid_eq]

theorem bishop_valid_iff (a b : Sq) :
    Impl.isBishopValid a b = true ↔ (Spec.between Spec.bishopDirs a b).isSome = true := by
  rw [bishop_valid_eq]

/-- strictly-between sets are exact for every aligned pair (for non-aligned pairs the Rust function is
never called and returns an unspecified set — DESIGN §6 C15) -/
theorem rook_between_exact (a b : Sq) (l : List Sq) (h : Spec.between Spec.rookDirs a b = some l) (t : Sq) :
    (Impl.rookStrict a b).has t = true ↔ t ∈ l := by
  rw [rook_strict_eq a b l h]; simp

theorem bishop_between_exact (a b : Sq) (l : List Sq) (h : Spec.between Spec.bishopDirs a b = some l) (t : Sq) :
    (Impl.bishopStrict a b).has t = true ↔ t ∈ l := by
  rw [bishop_strict_eq a b l h]; simp

/-! non-vacuity: concrete instances with non-trivial content -/
example : Spec.slide Spec.rookDirs (fun x => (BB.ofNat 0x0000001000000000).has x) ⟨28, by decide⟩
    = [⟨36, by decide⟩, ⟨20, by decide⟩, ⟨12, by decide⟩, ⟨4, by decide⟩, ⟨27, by decide⟩, ⟨26, by decide⟩,
       ⟨25, by decide⟩, ⟨24, by decide⟩, ⟨29, by decide⟩, ⟨30, by decide⟩, ⟨31, by decide⟩] := by decide +kernel
example : Spec.between Spec.bishopDirs ⟨0, by decide⟩ ⟨27, by decide⟩ = some [⟨9, by decide⟩, ⟨18, by decide⟩] := by
  decide +kernel

end Owl.Props.C15
