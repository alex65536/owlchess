/-
C19 (continued): the pawn generators' unchecked `dst - delta` square arithmetic stays on the board.
-/
import OwlModel.Props.C19
import OwlModel.Lemmas.Shifts

namespace Owl.Props.C19
open Owl Owl.Impl Owl.Lemmas

/-- the pawn generators compute the source square as `dst - delta` with unchecked arithmetic; for every destination
the shift sets can contain (`advanceForward_has`, `advanceLeft_has`, `advanceRight_has` give exactly these rank / file
conditions) that square is on the board -/
theorem gen_push_site (c : Color) : ∀ d : Sq, d.rank ≠ behindRank c → OnBoard d (-(forwardDelta c)) := by
  intro d h
  rw [neg_forwardDelta_eq]
  exact coords_site d 0 _ ((behind_guard c d 0 (Or.inr (Or.inr rfl))).mpr ⟨h, by simp, by simp⟩)
theorem gen_left_site (c : Color) : ∀ d : Sq, d.rank ≠ behindRank c → d.file ≠ 7 → OnBoard d (-(leftDelta c)) := by
  intro d h hf
  rw [neg_leftDelta_eq]
  exact coords_site d 1 _ ((behind_guard c d 1 (Or.inl rfl)).mpr ⟨h, fun _ => hf, by simp⟩)
theorem gen_right_site (c : Color) : ∀ d : Sq, d.rank ≠ behindRank c → d.file ≠ 0 → OnBoard d (-(rightDelta c)) := by
  intro d h hf
  rw [neg_rightDelta_eq]
  exact coords_site d (-1) _ ((behind_guard c d (-1) (Or.inr (Or.inl rfl))).mpr ⟨h, by simp, fun _ => hf⟩)
theorem gen_double_site (c : Color) : ∀ d : Sq, d.rank ≠ behindRank c → (addU d (-(forwardDelta c))).rank ≠ behindRank c →
    OnBoard d (-(2 * forwardDelta c)) := by
  intro d h1 h2
  have e := neg_forwardDelta_eq c
  rw [e] at h2
  obtain ⟨g1, g2⟩ := (behind_guard c d 0 (Or.inr (Or.inr rfl))).mpr ⟨h1, by simp, by simp⟩
  obtain ⟨a1, a2⟩ := addU_coords d 0 _ g1 g2
  obtain ⟨_, g4⟩ := (behind_guard c _ 0 (Or.inr (Or.inr rfl))).mpr ⟨h2, by simp, by simp⟩
  have := coords_site d 0 (-Spec.forward c + -Spec.forward c) ⟨g1, by omega⟩
  rwa [show -(2 * forwardDelta c) = 8 * (-Spec.forward c + -Spec.forward c) + 0 by omega]

/-- en-passant generator: the neighbours of the marked pawn that are read -/
theorem gen_ep_sites (c : Color) : ∀ p : Sq, p.rank = epSrcRank c →
    (p.file ≠ fileA → OnBoard p (-1)) ∧ (p.file ≠ fileH → OnBoard p 1) ∧ OnBoard p (forwardDelta c) :=
  fun p h => ⟨fun _ => (ep_neighbour_sites p c h).2, fun _ => (ep_neighbour_sites p c h).1, ep_forward_site p c h⟩

end Owl.Props.C19
