/-
C01 (sanity of the trusted statements): the rules layer `Spec` that every C01 theorem is stated against gives, in the
kernel, the published number of legal moves (perft depth 1, chessprogramming.org "Perft Results") for the initial position and
the five standard test positions (castling both ways, en passant, promotions with check, pins, discovered checks). These are
tests of the specification, labelled as tests: they make the universally quantified theorems non-vacuous and tie the
`Spec` text reader and move rules to facts that do not come from this repository or this framework.
-/
import OwlModel.Lemmas.SpecEval

namespace Owl.Props.C01
open Owl Owl.Spec

/-- `rnbqkbnr/pppppppp/8/8/8/8/PPPPPPPP/RNBQKBNR w KQkq - 0 1` -/
def fen_initial : List Nat := [114, 110, 98, 113, 107, 98, 110, 114, 47, 112, 112, 112, 112, 112, 112, 112, 112, 47, 56, 47, 56, 47, 56, 47, 56, 47, 80, 80, 80, 80, 80, 80, 80, 80, 47, 82, 78, 66, 81, 75, 66, 78, 82, 32, 119, 32, 75, 81, 107, 113, 32, 45, 32, 48, 32, 49]
theorem spec_perft1_initial : (Fen.read fen_initial).map (fun p => (legalMoves p).length) = some 20 := by
  simp only [legalMoves_eq]; decide +kernel

/-- `r3k2r/p1ppqpb1/bn2pnp1/3PN3/1p2P3/2N2Q1p/PPPBBPPP/R3K2R w KQkq - 0 1` -/
def fen_kiwipete : List Nat := [114, 51, 107, 50, 114, 47, 112, 49, 112, 112, 113, 112, 98, 49, 47, 98, 110, 50, 112, 110, 112, 49, 47, 51, 80, 78, 51, 47, 49, 112, 50, 80, 51, 47, 50, 78, 50, 81, 49, 112, 47, 80, 80, 80, 66, 66, 80, 80, 80, 47, 82, 51, 75, 50, 82, 32, 119, 32, 75, 81, 107, 113, 32, 45, 32, 48, 32, 49]
theorem spec_perft1_kiwipete : (Fen.read fen_kiwipete).map (fun p => (legalMoves p).length) = some 48 := by
  simp only [legalMoves_eq]; decide +kernel

/-- `8/2p5/3p4/KP5r/1R3p1k/8/4P1P1/8 w - - 0 1` -/
def fen_pos3 : List Nat := [56, 47, 50, 112, 53, 47, 51, 112, 52, 47, 75, 80, 53, 114, 47, 49, 82, 51, 112, 49, 107, 47, 56, 47, 52, 80, 49, 80, 49, 47, 56, 32, 119, 32, 45, 32, 45, 32, 48, 32, 49]
theorem spec_perft1_pos3 : (Fen.read fen_pos3).map (fun p => (legalMoves p).length) = some 14 := by
  simp only [legalMoves_eq]; decide +kernel

/-- `r3k2r/Pppp1ppp/1b3nbN/nP6/BBP1P3/q4N2/Pp1P2PP/R2Q1RK1 w kq - 0 1` -/
def fen_pos4 : List Nat := [114, 51, 107, 50, 114, 47, 80, 112, 112, 112, 49, 112, 112, 112, 47, 49, 98, 51, 110, 98, 78, 47, 110, 80, 54, 47, 66, 66, 80, 49, 80, 51, 47, 113, 52, 78, 50, 47, 80, 112, 49, 80, 50, 80, 80, 47, 82, 50, 81, 49, 82, 75, 49, 32, 119, 32, 107, 113, 32, 45, 32, 48, 32, 49]
theorem spec_perft1_pos4 : (Fen.read fen_pos4).map (fun p => (legalMoves p).length) = some 6 := by
  simp only [legalMoves_eq]; decide +kernel

/-- `rnbq1k1r/pp1Pbppp/2p5/8/2B5/8/PPP1NnPP/RNBQK2R w KQ - 1 8` -/
def fen_pos5 : List Nat := [114, 110, 98, 113, 49, 107, 49, 114, 47, 112, 112, 49, 80, 98, 112, 112, 112, 47, 50, 112, 53, 47, 56, 47, 50, 66, 53, 47, 56, 47, 80, 80, 80, 49, 78, 110, 80, 80, 47, 82, 78, 66, 81, 75, 50, 82, 32, 119, 32, 75, 81, 32, 45, 32, 49, 32, 56]
theorem spec_perft1_pos5 : (Fen.read fen_pos5).map (fun p => (legalMoves p).length) = some 44 := by
  simp only [legalMoves_eq]; decide +kernel

/-- `r4rk1/1pp1qppp/p1np1n2/2b1p1B1/2B1P1b1/P1NP1N2/1PP1QPPP/R4RK1 w - - 0 10` -/
def fen_pos6 : List Nat := [114, 52, 114, 107, 49, 47, 49, 112, 112, 49, 113, 112, 112, 112, 47, 112, 49, 110, 112, 49, 110, 50, 47, 50, 98, 49, 112, 49, 66, 49, 47, 50, 66, 49, 80, 49, 98, 49, 47, 80, 49, 78, 80, 49, 78, 50, 47, 49, 80, 80, 49, 81, 80, 80, 80, 47, 82, 52, 82, 75, 49, 32, 119, 32, 45, 32, 45, 32, 48, 32, 49, 48]
theorem spec_perft1_pos6 : (Fen.read fen_pos6).map (fun p => (legalMoves p).length) = some 46 := by
  simp only [legalMoves_eq]; decide +kernel

end Owl.Props.C01
