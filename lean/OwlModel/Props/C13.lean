/-
C13  A move chain is a faithful, reversible record of the game.
The invariant `ChainInv` of Lemmas/ChainInv holds of a new chain and is kept by every operation, hence after any
sequence of pushes (moves, UCI values / strings / lists, SAN values / strings), pops and outcome operations: `ops_inv`.
-/
import OwlModel.Lemmas.ChainInv
import OwlModel.Lemmas.SanSound

namespace Owl.Props.C13
open Owl Owl.Impl Owl.Lemmas Owl.Props

inductive Op
  | pushMove (m : Move) | pushUci (u : UciMove) | pushUciStr (s : Bytes) | pushList (s : Bytes)
  | pushSan (m : SanMove) | pushSanStr (s : Bytes)
  | pop | setOutcome (o : Outcome) | clearOutcome | auto (f : OutcomeFilter)

/-- what the operation leaves in the caller's chain variable (refusals and `finished` chains leave it as it was) -/
def Op.apply (ch : Chain) : Op → Chain
  | .pushMove m => if ch.isFinished || !m.isWellFormed then ch else
      match ch.pushWith (makeMoveLike ch.board m) with | .ok c => c | _ => ch
  | .pushUci u => if ch.isFinished then ch else
      match ch.pushWith (makeUciMove ch.board u) with | .ok c => c | _ => ch
  | .pushUciStr s => if ch.isFinished then ch else
      match ch.pushWith (makeUciStr ch.board s) with | .ok c => c | _ => ch
  | .pushList s => if ch.isFinished then ch else (ch.pushUciList s).1
  | .pushSan m => if ch.isFinished then ch else
      match ch.pushWith (makeSanMove ch.board m) with | .ok c => c | _ => ch
  | .pushSanStr s => if ch.isFinished then ch else
      match ch.pushWith (makeSanStr ch.board s) with | .ok c => c | _ => ch
  | .pop => match ch.pop? with | some (c, _) => c | none => ch
  | .setOutcome o => if ch.isFinished then ch else { ch with outcome := some o }
  | .clearOutcome => { ch with outcome := none }
  | .auto f => if ch.isFinished then ch else match ch.setAutoOutcome? f with | some c => c | none => ch

/-- the shape of every push operation: a finished chain, a refusal and a panic leave the chain as it was, an accepted
push keeps the invariant and the start -/
theorem push_step (ch : Chain) (h : ChainInv ch) (skip : Bool) (r : Res MakeErr (Move × Board))
    (hr : skip = false → MakeLikeOk ch.board r) :
    let ch' := if skip then ch else match ch.pushWith r with | .ok c => c | _ => ch
    ChainInv ch' ∧ ch'.start = ch.start := by
  cases skip with
  | true => exact ⟨h, rfl⟩
  | false =>
    cases hp : ch.pushWith r with
    | ok c =>
      obtain ⟨_, _, _, hi, _, _, hs, _⟩ := push_ok ch c h r (hr rfl) hp
      exact ⟨hi, hs⟩
    | err e => exact ⟨h, rfl⟩
    | trap w => exact ⟨h, rfl⟩

/-- one operation keeps the invariant and the start; the five push cases of `Op.apply` unfold to the term of
`push_step`, with `skip` the test in front and `r` the make-like's result -/
theorem Op.apply_inv (ch : Chain) (h : ChainInv ch) : ∀ op : Op,
    ChainInv (Op.apply ch op) ∧ (Op.apply ch op).start = ch.start
  | .pushMove m => push_step ch h _ _ fun hc =>
      makeMoveLike_ok ch.board m h.valid (by simpa using (Bool.or_eq_false_iff.mp hc).2)
  | .pushUci u => push_step ch h _ _ fun _ => makeUciMove_ok ch.board u h.valid
  | .pushUciStr s => push_step ch h _ _ fun _ => makeUciStr_ok ch.board s h.valid
  | .pushSan m => push_step ch h _ _ fun _ => C09.makeSanMove_ok ch.board h.valid m
  | .pushSanStr s => push_step ch h _ _ fun _ => C09.makeSanStr_ok ch.board h.valid s
  | .pushList s => by
    simp only [Op.apply]
    split
    · exact ⟨h, rfl⟩
    · obtain ⟨i1, i2, _⟩ := pushUciList_go (splitAsciiWhitespace s) ch 0 h
      exact ⟨i1, i2⟩
  | .pop => by
    simp only [Op.apply]
    rcases pop_spec' ch h with ⟨_, hp⟩ | ⟨_, _, _, _, _, _, hp, hi, _, _, _, _, hs, _⟩ <;> rw [hp]
    · exact ⟨h, rfl⟩
    · exact ⟨hi, hs⟩
  | .setOutcome o => by
    simp only [Op.apply]
    split
    · exact ⟨h, rfl⟩
    · exact ⟨inv_outcome ch _ h, rfl⟩
  | .clearOutcome => ⟨inv_outcome ch _ h, rfl⟩
  | .auto f => by
    simp only [Op.apply]
    split
    · exact ⟨h, rfl⟩
    · split
      · rename_i c ha
        obtain ⟨i1, _, _, i4⟩ := inv_auto ch c f h ha
        exact ⟨i1, i4⟩
      · exact ⟨h, rfl⟩

/-- C13: after ANY sequence of pushes (moves, UCI values, UCI strings, UCI lists, SAN values, SAN strings — legal or
not), pops and outcome operations, the invariant holds: valid positions throughout, stack = a legal game from the
unchanged start, board = its replay, repetition table = hash counts of the game so far -/
theorem ops_inv (ops : List Op) : ∀ ch, ChainInv ch → ChainInv (ops.foldl Op.apply ch) ∧ (ops.foldl Op.apply ch).start = ch.start := by
  induction ops with
  | nil => intro ch h; exact ⟨h, rfl⟩
  | cons op rest ih =>
    intro ch h
    obtain ⟨s1, s2⟩ := Op.apply_inv ch h op
    obtain ⟨i1, i2⟩ := ih _ s1
    exact ⟨i1, i2.trans s2⟩

/-! The C13 check audits the theorems of this file: the parts of the property that are lemmas of Lemmas/ChainInv are
stated here under the property's names. -/

theorem new_chain_inv (b : Board) (hv : Valid b) : ChainInv (Chain.new b) := by
  have hc := Counts.nil.push b.hash
  have hb : buildBoard (Chain.new b).start = b := hv.shape.cons.symm
  exact ⟨[b], by rw [hb]; exact hv, by rw [hb]; exact Game.nil, hc.1, hc.2⟩

theorem faithful (ch : Chain) (h : ChainInv ch) :
    ch.board = replay (buildBoard ch.start) (ch.stack.map (·.1)) := chain_faithful ch h

theorem refines_rules (ch : Chain) (h : ChainInv ch) :
    ∃ sms, ch.stack.map (fun e => absMove e.1) = sms.map some ∧ abs ch.board.r = Spec.replay (abs ch.start) sms :=
  chain_refines_rules ch h

theorem accepted_push (ch ch' : Chain) (h : ChainInv ch) (r : Res MakeErr (Move × Board)) (hr : MakeLikeOk ch.board r)
    (hp : ch.pushWith r = .ok ch') :
    ∃ mv, r = .ok (mv, (makeMove ch.board mv).1) ∧ LegalStep ch.board mv ∧ ChainInv ch'
      ∧ ch'.stack = ch.stack ++ [(mv, (makeMove ch.board mv).2)] ∧ ch'.board = (makeMove ch.board mv).1
      ∧ ch'.start = ch.start ∧ ch'.outcome = ch.outcome := push_ok ch ch' h r hr hp

theorem refused_push (ch : Chain) (e : MakeErr) : ch.pushWith (.err e) = .err e := push_refused ch e

theorem pop_exact (ch : Chain) (h : ChainInv ch) :
    (ch.stack = [] ∧ ch.pop? = some (ch, none)) ∨
    (∃ st m u bp ch', ch.stack = st ++ [(m, u)] ∧ ch.pop? = some (ch', some m) ∧ ChainInv ch'
      ∧ ch'.stack = st ∧ ch'.board = bp ∧ ch.board = (makeMove bp m).1 ∧ u = (makeMove bp m).2
      ∧ ch'.start = ch.start ∧ ch'.outcome = none) := pop_spec' ch h

theorem equality (a b : Chain) :
    a.beq b = true ↔ (a.start = b.start ∧ a.stack.map (·.1) = b.stack.map (·.1) ∧ a.outcome = b.outcome) := beq_iff a b

theorem all_make_likes (b : Board) (hv : Valid b) :
    (∀ m, m.isWellFormed = true → MakeLikeOk b (makeMoveLike b m)) ∧ (∀ u, MakeLikeOk b (makeUciMove b u))
    ∧ (∀ s, MakeLikeOk b (makeUciStr b s)) ∧ (∀ m, MakeLikeOk b (makeSanMove b m)) ∧ (∀ s, MakeLikeOk b (makeSanStr b s)) :=
  ⟨fun m hw => makeMoveLike_ok b m hv hw, fun u => makeUciMove_ok b u hv, fun s => makeUciStr_ok b s hv,
   fun m => C09.makeSanMove_ok b hv m, fun s => C09.makeSanStr_ok b hv s⟩

/-! non-vacuity: a chain on the initial position satisfies the invariant -/
example : ChainInv (Chain.new (buildBoard C04.initialRaw)) :=
  new_chain_inv _ C04.initial_valid

end Owl.Props.C13
