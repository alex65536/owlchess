/-
C10 (continued): the legal-checking UCI reader in rule terms.
-/
import OwlModel.Props.C01

namespace Owl.Props.C10
open Owl Owl.Impl Owl.Lemmas Owl.Props

/-- `Move::from_uci_legal` returns `mv` exactly when `mv` is spelled by the string and is a legal move of the rules:
pseudo-legal (`Spec.pseudoMoves`) and not leaving the mover's king attacked in `Spec.apply` of the position -/
theorem uci_legal_iff_rules (b : Board) (hv : Valid b) (s : Bytes) (src dst : Sq) (p : Option Piece)
    (hparse : parseUci s = .ok (.move src dst p)) (mv : Move) :
    moveFromUciLegal s b = .ok mv ↔
      (uciOfMove mv = .move src dst p ∧ ∃ sm, concMove sm = mv ∧ sm ∈ Spec.legalMoves (abs b.r)) := by
  rw [uci_legal_iff b hv.shape s src dst p hparse mv]
  obtain ⟨l, h1, _, h3⟩ := C01.legalGen_eq_rules b hv
  obtain ⟨l2, g1, _, g3⟩ := C01.legalGen_spec b hv .all
  rw [h1] at g1; cases g1
  constructor
  · intro ⟨hwf, hsl, hleg, hu⟩
    obtain ⟨sm, _, hc, _⟩ := semilegal_abs b hv mv hwf hsl
    refine ⟨hu, sm, hc, (h3 sm).mpr ?_⟩
    rw [hc]
    exact (g3 mv).mpr ⟨hwf, hsl, inClass_all b mv hsl, hleg⟩
  · intro ⟨hu, sm, hc, hm⟩
    have := (h3 sm).mp hm
    rw [hc] at this
    obtain ⟨hwf, hsl, _, hleg⟩ := (g3 mv).mp this
    exact ⟨hwf, hsl, hleg, hu⟩

end Owl.Props.C10
