/-
C20  Core value types convert losslessly and bitboards behave as sets of squares.
-/
import OwlModel.Lemmas.BitSet
import OwlModel.Impl.Text
import OwlModel.Lemmas.Cells

namespace Owl.Props.C20
open Owl Owl.Impl Owl.Lemmas

theorem sq_parts_roundtrip (s : Sq) : Sq.mk s.file s.rank = s := Sq.mk_file_rank s
theorem sq_mk_file (f r : Fin 8) : (Sq.mk f r).file = f := Sq.file_mk f r
theorem sq_mk_rank (f r : Fin 8) : (Sq.mk f r).rank = r := Sq.rank_mk f r
theorem sq_index (f r : Fin 8) : (Sq.mk f r).val = r.val * 8 + f.val := rfl

theorem piece_index_roundtrip (p : Piece) : Piece.ofIdx p.idx = some p := by cases p <;> rfl
theorem piece_index_rejects (n : Nat) : (Piece.ofIdx n).isSome = true ↔ n < 6 := by
  constructor
  · intro h; match n, h with
    | 0, _ | 1, _ | 2, _ | 3, _ | 4, _ | 5, _ => decide
  · intro h; match n, h with
    | 0, _ | 1, _ | 2, _ | 3, _ | 4, _ | 5, _ => rfl
theorem kind_index_roundtrip (k : Kind) : Kind.ofIdx k.idx = some k := by cases k <;> rfl

/-- the extracted enum discriminants are the indices the model uses -/
theorem discriminants : Gen.pieceDisc = Piece.all.map Piece.idx ∧ Gen.kindDisc = Kind.all.map Kind.idx := by decide

theorem cell_parts_roundtrip (c : Color) (p : Piece) :
    (Cell.mk c p).color = some c ∧ (Cell.mk c p).piece = some p :=
  ⟨color_mk c p, piece_mk c p⟩
theorem cell_from_parts (x : Cell) (h : x ≠ Cell.empty) :
    (x.color.bind fun c => x.piece.map fun p => Cell.mk c p) = some x := by
  revert x; decide
theorem cell_empty : Cell.empty.color = none ∧ Cell.empty.piece = none := ⟨empty_color, by decide⟩

/-- `Cell::from_parts` uses the extracted bases 1 and 7 -/
theorem cell_bases : Gen.cellBaseW = 1 ∧ Gen.cellBaseB = 7 := by decide

theorem color_inv_inv (c : Color) : c.inv.inv = c := Color.inv_inv c

theorem rights_with (r : Rights) (c c' : Color) (s s' : Side) :
    rHas (rWith r c s) c' s' = (rHas r c' s' || (decide (c = c') && decide (s = s'))) := by
  revert r; cases c <;> cases c' <;> cases s <;> cases s' <;> decide
theorem rights_without (r : Rights) (c c' : Color) (s s' : Side) :
    rHas (rWithout r c s) c' s' = (rHas r c' s' && !(decide (c = c') && decide (s = s'))) := by
  revert r; cases c <;> cases c' <;> cases s <;> cases s' <;> decide
theorem rights_has_color (r : Rights) (c : Color) :
    rHasColor r c = (rHas r c .king || rHas r c .queen) := by
  revert r; cases c <;> decide
theorem rights_ext (r r' : Rights) (h : ∀ c s, rHas r c s = rHas r' c s) : r = r' := by
  have h1 := h .white .king; have h2 := h .white .queen; have h3 := h .black .king; have h4 := h .black .queen
  revert h1 h2 h3 h4; clear h; revert r r'; decide

theorem fileOfByte_some {b : Nat} {f : Fin 8} (h : fileOfByte b = some f) : b = 97 + f.val := by
  unfold fileOfByte at h; split at h
  · injection h with h; subst h; simp; omega
  · simp at h
theorem rankOfByte_some {b : Nat} {r : Fin 8} (h : rankOfByte b = some r) : b = 56 - r.val := by
  unfold rankOfByte at h; split at h
  · injection h with h; subst h; simp; omega
  · simp at h

/-- a byte that is not ASCII is none of the letters the comparisons test for -/
theorem cellOfByte_big (b : Nat) (hb : ¬ b < 128) : cellOfByte b = none := by
  unfold cellOfByte toLower isUpper
  have h3 : (decide (65 ≤ b) && decide (b ≤ 90)) = false := by simp; omega
  have hne : ∀ n, n < 128 → ¬ b = n := fun n hn e => hb (e ▸ hn)
  simp [h3, hne]

theorem coord_text_roundtrip (s : Sq) : parseCoord (fmtCoord s) = .ok s := by revert s; decide

theorem coord_parse_exact (t : Bytes) (s : Sq) : parseCoord t = .ok s ↔ t = fmtCoord s := by
  constructor
  · intro h
    match t, h with
    | [f, r], h =>
      unfold parseCoord at h
      simp only at h
      cases hfo : fileOfByte f with
      | none => simp [hfo] at h
      | some file =>
        cases hro : rankOfByte r with
        | none => simp [hfo, hro] at h
        | some rank =>
          simp only [hfo, hro] at h
          injection h with h; subst h
          simp only [fmtCoord, fileByte, rankByte, Sq.file_mk, Sq.rank_mk]
          rw [fileOfByte_some hfo, rankOfByte_some hro]
    | [], h | [_], h | _ :: _ :: _ :: _, h => simp [parseCoord] at h
  · intro h; subst h; exact coord_text_roundtrip s

theorem cell_text_roundtrip (c : Cell) : parseCell [cellByte c] = .ok c := by revert c; decide
theorem color_text_roundtrip (c : Color) : parseColor [colorByte c] = .ok c := by cases c <;> decide
theorem rights_text_roundtrip (r : Rights) : parseRights (fmtRights r) = .ok r := by revert r; decide

/-- the cell letters extracted from the source are `.PKNBRQpknbrq` -/
theorem cell_letters : Gen.cellChars = ".PKNBRQpknbrq".toList.map Char.toNat := by decide

/-- a single byte parses as a cell exactly when it is one of the thirteen letters -/
theorem cell_parse_exact (b : Nat) (c : Cell) : parseCell [b] = .ok c ↔ b = cellByte c := by
  constructor
  · intro h
    have hc : cellOfByte b = some c := by
      simp only [parseCell] at h
      cases hc : cellOfByte b with
      | none => rw [hc] at h; cases h
      | some c' => rw [hc] at h; injection h with h; rw [h]
    by_cases hb : b < 128
    · have key : ∀ b : Fin 128, (cellOfByte b.val).all (fun c => decide (b.val = cellByte c)) = true := by decide
      have := key ⟨b, hb⟩
      rw [hc] at this
      simpa using this
    · rw [cellOfByte_big b hb] at hc
      cases hc
  · intro h; subst h; exact cell_text_roundtrip c

theorem color_parse_exact (b : Nat) (c : Color) : parseColor [b] = .ok c ↔ b = colorByte c := by
  unfold parseColor colorOfByte
  by_cases h1 : b = 119
  · subst h1; cases c <;> simp [colorByte]
  · by_cases h2 : b = 98
    · subst h2; cases c <;> simp [colorByte]
    · cases c <;> simp [colorByte, h1, h2]

theorem bb_union (a b : BB) (s : Sq) : (a ||| b).has s = (a.has s || b.has s) := BB.has_or a b s
theorem bb_inter (a b : BB) (s : Sq) : (a &&& b).has s = (a.has s && b.has s) := BB.has_and a b s
theorem bb_symdiff (a b : BB) (s : Sq) : (a ^^^ b).has s = (a.has s ^^ b.has s) := BB.has_xor a b s
theorem bb_compl (a : BB) (s : Sq) : (~~~ a).has s = !a.has s := BB.has_not a s
theorem bb_insert (a : BB) (s t : Sq) : (a ||| BB.single s).has t = (a.has t || decide (s = t)) := by simp
theorem bb_remove (a : BB) (s t : Sq) : (a &&& ~~~ BB.single s).has t = (a.has t && !decide (s = t)) := by simp
theorem bb_empty (s : Sq) : BB.has (0#64) s = false := BB.has_zero s
theorem bb_full (s : Sq) : BB.has (BitVec.allOnes 64) s = true := BB.has_allOnes s
theorem bb_ext (a b : BB) (h : ∀ s, a.has s = b.has s) : a = b := BB.ext_has h
theorem bb_iter_mem (a : BB) (s : Sq) : s ∈ a.toList ↔ a.has s = true := BB.mem_toList a s
theorem bb_iter_ascending (a : BB) : a.toList.Pairwise (· < ·) := by
  unfold BB.toList Sq.all
  exact List.Pairwise.filter _ (List.pairwise_lt_finRange 64)
theorem bb_len_card (a : BB) : a.len = a.toList.length := rfl

theorem rank_const (r : Fin 8) (s : Sq) : (rankBB r).has s = decide (s.rank = r) := by revert r s; decide +kernel
theorem file_const (f : Fin 8) (s : Sq) : (fileBB f).has s = decide (s.file = f) := by revert f s; decide +kernel
theorem diag_const (i : Fin 15) (s : Sq) :
    (tabGet Gen.diagTab i.val).has s = decide (s.file.val + s.rank.val = i.val) := by revert i s; decide +kernel
theorem antidiag_const (i : Fin 15) (s : Sq) :
    (tabGet Gen.antidiagTab i.val).has s = decide (7 - s.rank.val + s.file.val = i.val) := by revert i s; decide +kernel
theorem light_const (s : Sq) : lightSquares.has s = decide ((s.file.val + s.rank.val) % 2 = 0) := by revert s; decide +kernel
theorem dark_const (s : Sq) : darkSquares.has s = decide ((s.file.val + s.rank.val) % 2 = 1) := by revert s; decide +kernel

theorem flip_rank_geom (s : Sq) : s.flipRank = Sq.mk s.file ⟨7 - s.rank.val, by omega⟩ := by revert s; decide
theorem flip_file_geom (s : Sq) : s.flipFile = Sq.mk ⟨7 - s.file.val, by omega⟩ s.rank := by revert s; decide
theorem shift_geom (s : Sq) (df dr : Int) (t : Sq) :
    s.shift df dr = some t ↔ ((t.file.val : Int) = s.file.val + df ∧ (t.rank.val : Int) = s.rank.val + dr) := by
  unfold Sq.shift
  have hs := s.isLt; have ht := t.isLt
  by_cases h : 0 ≤ (s.file.val : Int) + df ∧ (s.file.val : Int) + df < 8
      ∧ 0 ≤ (s.rank.val : Int) + dr ∧ (s.rank.val : Int) + dr < 8
  · simp only [dif_pos h, Option.some.injEq]
    simp only [Sq.file, Sq.rank] at h ⊢
    constructor
    · intro e; subst e; simp; omega
    · intro ⟨h1, h2⟩; apply Fin.ext; simp; omega
  · simp only [dif_neg h, reduceCtorEq, false_iff]
    simp only [Sq.file, Sq.rank] at h ⊢
    omega
theorem add_geom (s : Sq) (d : Int) (t : Sq) : s.add? d = some t ↔ (t.val : Int) = s.val + d := by
  unfold Sq.add?
  have hs := s.isLt; have ht := t.isLt
  by_cases h : 0 ≤ (s.val : Int) + d ∧ (s.val : Int) + d < 64
  · simp only [dif_pos h, Option.some.injEq]
    constructor
    · intro e; subst e; simp; omega
    · intro h; apply Fin.ext; simp; omega
  · simp only [dif_neg h, reduceCtorEq, false_iff]; omega

/-! non-vacuity -/
example : parseCoord [101, 52] = .ok ⟨36, by decide⟩ := by decide
example : (rankBB 7).toList.length = 8 := by decide +kernel

end Owl.Props.C20
