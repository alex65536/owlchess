import OwlModel.Props.C13
namespace Owl.Props.C17
open Owl Owl.Impl Owl.Lemmas Owl.Props Owl.Props.C13

/-
C17  Walking and printing a chain reproduce the game.
All statements are relative to the chain invariant of C13 (`ChainInvH ch hs`: the stack is a legal game from the start,
`hs` = its positions): the walker (`runSteps_spec`, `walk_spec`), the UCI list and its replay (`uciList_replay`), the
styled list (`styled_spec`; closed in Props/C17_total).
-/

/-- `hs` lists the positions of the legal game `st`: position `i+1` is `make` of move `i` on position `i`, the
stored undo record is the one `make` returned, every move is a legal step of a valid position -/
structure Steps (st : List (Move × RawUndo)) (hs : List Board) : Prop where
  len : hs.length = st.length + 1
  step : ∀ i, i < st.length → ∃ bi m u, hs[i]? = some bi ∧ st[i]? = some (m, u)
    ∧ hs[i+1]? = some (makeMove bi m).1 ∧ u = (makeMove bi m).2 ∧ LegalStep bi m ∧ Valid bi

theorem game_steps {b0 : Board} (h0 : Valid b0) : ∀ {st hs b}, Game b0 st hs b → Steps st hs := by
  intro st hs b h
  induction h with
  | nil => exact ⟨rfl, fun i hi => absurd hi (Nat.not_lt_zero _)⟩
  | @snoc st hs bp m hg hl ih =>
    have hlen := ih.len
    refine ⟨by simp [hlen], fun i hi => ?_⟩
    simp only [List.length_append, List.length_singleton] at hi
    by_cases hlt : i < st.length
    · obtain ⟨bi, m', u', e1, e2, e3, e4⟩ := ih.step i hlt
      refine ⟨bi, m', u', ?_, ?_, ?_, e4⟩ <;> rw [List.getElem?_append_left (by omega)] <;> assumption
    · obtain rfl : i = st.length := by omega
      refine ⟨bp, m, _, ?_, by simp, by simp [hlen], rfl, hl, hg.valid h0⟩
      rw [List.getElem?_append_left (by omega)]
      exact hg.ends.2.2

theorem steps_of_inv {ch : Chain} {hs : List Board} (h : ChainInvH ch hs) : Steps ch.stack hs :=
  game_steps h.start h.game

/-- the walker still holds the chain's stack, both cursors are in range, and its board is the position that
precedes move number `boardPos` -/
structure WalkerInv (st : List (Move × RawUndo)) (hs : List Board) (w : Walker) : Prop where
  stack : w.stack = st
  bpos : w.boardPos ≤ st.length
  pos : w.pos ≤ st.length
  board : hs[w.boardPos]? = some w.board

theorem walk_inv (ch : Chain) (hs : List Board) (h : ChainInvH ch hs) : WalkerInv ch.stack hs ch.walk :=
  ⟨rfl, Nat.le_refl _, Nat.zero_le _, h.game.ends.2.2⟩

/-- the first loop of `set_board_pos`: unmake while the board cursor is above the target -/
theorem down_spec {st : List (Move × RawUndo)} {hs : List Board} (hS : Steps st hs) (target : Nat) :
    ∀ (fuel : Nat) (w : Walker), WalkerInv st hs w → w.boardPos - target ≤ fuel →
      ∃ w', Walker.setBoardPos?.down target fuel w = some w' ∧ WalkerInv st hs w' ∧ w'.pos = w.pos
        ∧ w'.boardPos = min w.boardPos target := by
  intro fuel
  induction fuel with
  | zero => exact fun w hw hf => ⟨w, rfl, hw, rfl, by omega⟩
  | succ fuel ih =>
    rintro ⟨b, stk, p, i⟩ ⟨hst, hi, hp, hb⟩ hf
    dsimp only at hst hi hp hb hf
    subst hst
    unfold Walker.setBoardPos?.down
    dsimp only
    split
    · obtain ⟨bi, m, u, e1, e2, e3, e4, e5, e6⟩ := hS.step (i - 1) (by omega)
      rw [show i - 1 + 1 = i by omega, hb] at e3
      cases e3
      simp only [e2, e4, C02.refusal_restores bi m e6 e5.wf e5.sl]
      obtain ⟨w', r1, r2, r3, r4⟩ :=
        ih ⟨bi, _, p, i - 1⟩ ⟨rfl, by show i - 1 ≤ _; omega, hp, e1⟩ (by show i - 1 - _ ≤ _; omega)
      exact ⟨w', r1, r2, r3, by rw [r4]; show min (i - 1) _ = min i _; omega⟩
    · exact ⟨_, rfl, ⟨rfl, hi, hp, hb⟩, rfl, by show i = min i _; omega⟩

/-- the second loop: make while the board cursor is below the target -/
theorem up_spec {st : List (Move × RawUndo)} {hs : List Board} (hS : Steps st hs) (target : Nat)
    (ht : target ≤ st.length) :
    ∀ (fuel : Nat) (w : Walker), WalkerInv st hs w → target - w.boardPos ≤ fuel →
      ∃ w', Walker.setBoardPos?.up target fuel w = some w' ∧ WalkerInv st hs w' ∧ w'.pos = w.pos
        ∧ w'.boardPos = max w.boardPos target := by
  intro fuel
  induction fuel with
  | zero => exact fun w hw hf => ⟨w, rfl, hw, rfl, by omega⟩
  | succ fuel ih =>
    rintro ⟨b, stk, p, i⟩ ⟨hst, hi, hp, hb⟩ hf
    dsimp only at hst hi hp hb hf
    subst hst
    unfold Walker.setBoardPos?.up
    dsimp only
    split
    · obtain ⟨bi, m, u, e1, e2, e3, _⟩ := hS.step i (by omega)
      rw [hb] at e1
      cases e1
      simp only [e2]
      obtain ⟨w', r1, r2, r3, r4⟩ :=
        ih ⟨_, _, p, i + 1⟩ ⟨rfl, by show i + 1 ≤ _; omega, hp, e3⟩ (by show _ - (i + 1) ≤ _; omega)
      exact ⟨w', r1, r2, r3, by rw [r4]; show max (i + 1) _ = max i _; omega⟩
    · exact ⟨_, rfl, ⟨rfl, hi, hp, hb⟩, rfl, by show i = max i _; omega⟩

/-- `set_board_pos` with an in-range target cannot panic, keeps the invariant and the logical cursor, and lands
exactly on the target -/
theorem setBoardPos_spec {st : List (Move × RawUndo)} {hs : List Board} (hS : Steps st hs) (w : Walker)
    (hw : WalkerInv st hs w) (target : Nat) (ht : target ≤ st.length) :
    ∃ w', w.setBoardPos? target = some w' ∧ WalkerInv st hs w' ∧ w'.pos = w.pos ∧ w'.boardPos = target := by
  unfold Walker.setBoardPos?
  have hb := hw.bpos
  obtain ⟨w1, d1, d2, d3, d4⟩ := down_spec hS target (w.stack.length + 1) w hw (by rw [hw.stack]; omega)
  rw [d1]
  simp only
  obtain ⟨w2, u1, u2, u3, u4⟩ := up_spec hS target ht (w.stack.length + 1) w1 d2 (by rw [hw.stack]; omega)
  exact ⟨w2, u1, u2, u3.trans d3, by rw [u4, d4]; omega⟩

/-- what `next` and `prev` share: with the logical cursor moved to `p`, `set_board_pos i` for a move index `i` cannot
panic and leaves the walker on the position that precedes move `i`, from where that move is read -/
theorem seek_spec {st : List (Move × RawUndo)} {hs : List Board} (hS : Steps st hs) (w : Walker)
    (hw : WalkerInv st hs w) (p i : Nat) (hp : p ≤ st.length) (hi : i < st.length) :
    ∃ w' mv u, ({ w with pos := p } : Walker).setBoardPos? i = some w' ∧ WalkerInv st hs w' ∧ w'.pos = p
      ∧ st[i]? = some (mv, u) ∧ hs[i]? = some w'.board := by
  obtain ⟨w', s1, s2, s3, s4⟩ :=
    setBoardPos_spec hS { w with pos := p } ⟨hw.stack, hw.bpos, hp, hw.board⟩ i (by omega)
  obtain ⟨_, m, u, _, e2, _⟩ := hS.step i hi
  exact ⟨w', m, u, s1, s2, s3, e2, by rw [← s4]; exact s2.board⟩

/-- `Walker::next` cannot panic; at the end it returns no move and changes nothing; otherwise it returns move number
`pos` with the position that preceded it, and advances the cursor by one -/
theorem next_spec {st : List (Move × RawUndo)} {hs : List Board} (hS : Steps st hs) (w : Walker)
    (hw : WalkerInv st hs w) :
    (w.pos = st.length ∧ w.next? = some (w, none)) ∨
    (w.pos < st.length ∧ ∃ w' b mv u, w.next? = some (w', some (b, mv)) ∧ WalkerInv st hs w'
      ∧ w'.pos = w.pos + 1 ∧ st[w.pos]? = some (mv, u) ∧ hs[w.pos]? = some b) := by
  have hp := hw.pos
  unfold Walker.next?
  by_cases he : w.pos = w.stack.length
  · exact .inl ⟨hw.stack ▸ he, by rw [if_pos he]⟩
  · have hlt : w.pos < st.length := by rw [hw.stack] at he; omega
    obtain ⟨w', mv, u, s1, s2, s3, s4, s5⟩ := seek_spec hS w hw (w.pos + 1) w.pos hlt hlt
    refine .inr ⟨hlt, w', w'.board, mv, u, ?_, s2, s3, s4, s5⟩
    simp only [if_neg he, Nat.add_sub_cancel, s1, s3, s2.stack, s4]

/-- `Walker::prev` cannot panic; at the start it returns no move and changes nothing; otherwise it returns move number
`pos - 1` with the position that preceded it, and moves the cursor back by one -/
theorem prev_spec {st : List (Move × RawUndo)} {hs : List Board} (hS : Steps st hs) (w : Walker)
    (hw : WalkerInv st hs w) :
    (w.pos = 0 ∧ w.prev? = some (w, none)) ∨
    (0 < w.pos ∧ ∃ w' b mv u, w.prev? = some (w', some (b, mv)) ∧ WalkerInv st hs w'
      ∧ w'.pos = w.pos - 1 ∧ st[w.pos - 1]? = some (mv, u) ∧ hs[w.pos - 1]? = some b) := by
  have hp := hw.pos
  unfold Walker.prev?
  by_cases he : w.pos = 0
  · exact .inl ⟨he, by rw [if_pos he]⟩
  · have hlt : w.pos - 1 < st.length := by omega
    obtain ⟨w', mv, u, s1, s2, s3, s4, s5⟩ := seek_spec hS w hw (w.pos - 1) (w.pos - 1) (by omega) hlt
    refine .inr ⟨by omega, w', w'.board, mv, u, ?_, s2, s3, s4, s5⟩
    simp only [if_neg he, s1, s3, s2.stack, s4]

inductive Step | next | prev | toStart | toEnd
  deriving DecidableEq, Repr

/-- one walker operation: the walker afterwards and what it returned; `none` = panic -/
def Step.run (w : Walker) : Step → Option (Walker × Option (Board × Move))
  | .next => w.next?
  | .prev => w.prev?
  | .toStart => some (w.toStart, none)
  | .toEnd => some (w.toEnd, none)

/-- run a list of walker operations, collecting every `(position, move)` the walker returned, in order -/
def runSteps : Walker → List Step → Option (Walker × List (Board × Move))
  | w, [] => some (w, [])
  | w, s :: rest =>
    match s.run w with
    | none => none
    | some (w', o) =>
      match runSteps w' rest with
      | none => none
      | some (w'', obs) => some (w'', (match o with | some x => [x] | none => []) ++ obs)

/-- the logical cursor: for a game of `n` moves and cursor `p`, the new cursor and the index of the move that the
operation passes over (if any) -/
def Step.cursor (n p : Nat) : Step → Nat × Option Nat
  | .next => if p = n then (p, none) else (p + 1, some p)
  | .prev => if p = 0 then (p, none) else (p - 1, some (p - 1))
  | .toStart => (0, none)
  | .toEnd => (n, none)

/-- the indices passed over by a list of operations, and the final cursor -/
def cursorRun (n : Nat) : Nat → List Step → Nat × List Nat
  | p, [] => (p, [])
  | p, s :: rest =>
    let r := s.cursor n p
    let r' := cursorRun n r.1 rest
    (r'.1, (match r.2 with | some i => [i] | none => []) ++ r'.2)

/-- pointwise relation of two lists of equal length (core has no `List.Forall₂`) -/
inductive Forall2 {α β : Type} (R : α → β → Prop) : List α → List β → Prop
  | nil : Forall2 R [] []
  | cons {a b as bs} : R a b → Forall2 R as bs → Forall2 R (a :: as) (b :: bs)

theorem Forall2.get {α β : Type} {R : α → β → Prop} : ∀ {l1 : List α} {l2 : List β}, Forall2 R l1 l2 →
    l1.length = l2.length ∧ ∀ (k : Nat) (a : α) (b : β), l1[k]? = some a → l2[k]? = some b → R a b := by
  intro l1 l2 h
  induction h with
  | nil => exact ⟨rfl, fun k a b h => by simp at h⟩
  | @cons a b as bs hr _ ih =>
    refine ⟨by simp [ih.1], ?_⟩
    intro k x y h1 h2
    cases k with
    | zero => simp at h1 h2; subst h1 h2; exact hr
    | succ k => simp at h1 h2; exact ih.2 k x y h1 h2

/-- observation `o` is (the position that preceded move `i`, move `i`) -/
def ObsAt (st : List (Move × RawUndo)) (hs : List Board) (o : Board × Move) (i : Nat) : Prop :=
  i < st.length ∧ hs[i]? = some o.1 ∧ (st[i]?).map (·.1) = some o.2

theorem step_spec {st : List (Move × RawUndo)} {hs : List Board} (hS : Steps st hs) (w : Walker)
    (hw : WalkerInv st hs w) (s : Step) :
    ∃ w' o, s.run w = some (w', o) ∧ WalkerInv st hs w' ∧ w'.pos = (s.cursor st.length w.pos).1
      ∧ (match o, (s.cursor st.length w.pos).2 with
         | none, none => True
         | some x, some i => ObsAt st hs x i
         | _, _ => False) := by
  have hp := hw.pos
  cases s with
  | next =>
    rcases next_spec hS w hw with ⟨he, hn⟩ | ⟨hlt, w', b, mv, u, hn, hi, hp', e1, e2⟩
    · simp only [Step.cursor, if_pos he]
      exact ⟨w, none, hn, hw, rfl, trivial⟩
    · simp only [Step.cursor, if_neg (Nat.ne_of_lt hlt)]
      exact ⟨w', some (b, mv), hn, hi, hp', hlt, e2, by rw [e1]; rfl⟩
  | prev =>
    rcases prev_spec hS w hw with ⟨he, hn⟩ | ⟨hlt, w', b, mv, u, hn, hi, hp', e1, e2⟩
    · simp only [Step.cursor, if_pos he]
      exact ⟨w, none, hn, hw, rfl, trivial⟩
    · simp only [Step.cursor, if_neg (Nat.ne_of_gt hlt)]
      exact ⟨w', some (b, mv), hn, hi, hp', by omega, e2, by rw [e1]; rfl⟩
  | toStart => exact ⟨w.toStart, none, rfl, ⟨hw.stack, hw.bpos, Nat.zero_le _, hw.board⟩, rfl, trivial⟩
  | toEnd =>
    have he : w.toEnd.pos = st.length := congrArg List.length hw.stack
    exact ⟨w.toEnd, none, rfl, ⟨hw.stack, hw.bpos, Nat.le_of_eq he, hw.board⟩, he, trivial⟩

/-- C17 (walker): for ANY list of forward / backward / jump steps, starting from any walker state that satisfies the
invariant, no step panics, the walker keeps the chain's stack and stays in range, its cursor follows the logical
cursor, and the observations are, one for one and in order, (position preceding move `i`, move `i`) for exactly the
indices `i` the logical cursor passes over -/
theorem runSteps_spec {st : List (Move × RawUndo)} {hs : List Board} (hS : Steps st hs) (steps : List Step) :
    ∀ (w : Walker), WalkerInv st hs w →
      ∃ w' obs, runSteps w steps = some (w', obs) ∧ WalkerInv st hs w'
        ∧ w'.pos = (cursorRun st.length w.pos steps).1
        ∧ Forall2 (ObsAt st hs) obs (cursorRun st.length w.pos steps).2 := by
  induction steps with
  | nil => intro w hw; exact ⟨w, [], rfl, hw, rfl, Forall2.nil⟩
  | cons s rest ih =>
    intro w hw
    obtain ⟨w1, o, r1, i1, p1, o1⟩ := step_spec hS w hw s
    obtain ⟨w2, obs, r2, i2, p2, o2⟩ := ih w1 i1
    simp only [runSteps, r1, r2, cursorRun]
    refine ⟨w2, _, rfl, i2, by rw [p2, p1], ?_⟩
    rw [p1] at o2
    revert o1
    cases o <;> cases (s.cursor st.length w.pos).2 <;> simp only <;> intro o1
    · exact o2
    · exact o1.elim
    · exact o1.elim
    · exact Forall2.cons o1 o2

/-- C17 (walker), for a chain: walking a chain that satisfies the chain invariant -/
theorem walk_spec (ch : Chain) (hs : List Board) (h : ChainInvH ch hs) (steps : List Step) :
    ∃ w' obs, runSteps ch.walk steps = some (w', obs) ∧ w'.stack = ch.stack
      ∧ w'.pos = (cursorRun ch.stack.length 0 steps).1
      ∧ Forall2 (ObsAt ch.stack hs) obs (cursorRun ch.stack.length 0 steps).2 := by
  obtain ⟨w', obs, r, i, p, o⟩ := runSteps_spec (steps_of_inv h) steps ch.walk (walk_inv ch hs h)
  exact ⟨w', obs, r, i.stack, p, o⟩

def tailSp : List Bytes → Bytes
  | [] => []
  | t :: ts => 32 :: (t ++ tailSp ts)

def joinSp : List Bytes → Bytes
  | [] => []
  | t :: ts => t ++ tailSp ts

/-- a token the splitter returns unchanged: non-empty, no ASCII whitespace byte -/
def GoodTok (t : Bytes) : Prop := t ≠ [] ∧ ∀ x ∈ t, isAsciiWs x = false

def splitF (st : Bytes × List Bytes) (b : Nat) : Bytes × List Bytes :=
  if isAsciiWs b then (if st.1.isEmpty then st else ([], st.1.reverse :: st.2)) else (b :: st.1, st.2)

def splitFin (st : Bytes × List Bytes) : List Bytes :=
  (if st.1.isEmpty then st.2 else st.1.reverse :: st.2).reverse

theorem fold_tok (t : Bytes) (ht : ∀ x ∈ t, isAsciiWs x = false) :
    ∀ (cur : Bytes) (acc : List Bytes), t.foldl splitF (cur, acc) = (t.reverse ++ cur, acc) := by
  induction t with
  | nil => intro cur acc; rfl
  | cons x t ih =>
    intro cur acc
    simp [splitF, ht x List.mem_cons_self, ih (fun y hy => ht y (List.mem_cons_of_mem _ hy))]

theorem fold_tail (ts : List Bytes) (hts : ∀ t ∈ ts, GoodTok t) :
    ∀ (cur : Bytes) (acc : List Bytes), cur ≠ [] →
      splitFin ((tailSp ts).foldl splitF (cur, acc)) = acc.reverse ++ cur.reverse :: ts := by
  induction ts with
  | nil =>
    intro cur acc hc
    simp [tailSp, splitFin, hc]
  | cons t ts ih =>
    intro cur acc hc
    obtain ⟨hne, hws⟩ := hts t (List.mem_cons_self)
    simp only [tailSp, List.foldl_cons, List.foldl_append]
    have h32 : splitF (cur, acc) 32 = ([], cur.reverse :: acc) := by
      simp [splitF, isAsciiWs, hc]
    rw [h32, fold_tok t hws, ih (fun y hy => hts y (List.mem_cons_of_mem _ hy)) _ _ (by simpa using hne)]
    simp

/-- tokenisation: splitting single-space-joined good tokens returns exactly the tokens -/
theorem split_join (ts : List Bytes) (hts : ∀ t ∈ ts, GoodTok t) : splitAsciiWhitespace (joinSp ts) = ts := by
  cases ts with
  | nil => rfl
  | cons t ts =>
    obtain ⟨hne, hws⟩ := hts t (List.mem_cons_self)
    show splitFin ((joinSp (t :: ts)).foldl splitF ([], [])) = _
    rw [joinSp, List.foldl_append, fold_tok t hws,
      fold_tail ts (fun y hy => hts y (List.mem_cons_of_mem _ hy)) _ _ (by simpa using hne)]
    simp

/-- a UCI move text is non-empty and contains no whitespace byte -/
theorem fmtUci_good (u : UciMove) : GoodTok (fmtUci u) := by
  cases u with
  | null => exact ⟨by simp [fmtUci], by decide⟩
  | move src dst p =>
    refine ⟨by simp [fmtUci, fmtCoord], fun x hx => ?_⟩
    -- file letters are 97..104, rank digits 49..56, promotion letters above 97: no byte is whitespace (at most 32)
    have h1 := src.file.isLt; have h2 := src.rank.isLt; have h3 := dst.file.isLt; have h4 := dst.rank.isLt
    simp only [fmtUci, fmtCoord, fileByte, rankByte, List.mem_append, List.mem_cons, List.not_mem_nil, or_false] at hx
    have hx' : 33 ≤ x := by
      rcases hx with (((hx | hx) | (hx | hx)) | hx)
      iterate 4 omega
      revert hx
      cases p with
      | none => simp
      | some q => cases q <;> simp <;> omega
    simp only [isAsciiWs, Bool.or_eq_false_iff, decide_eq_false_iff_not]
    omega

/-- `UciList` display: the moves' UCI texts joined by single spaces -/
theorem uciList_eq (ch : Chain) : ch.uciList = joinSp (ch.stack.map fun e => fmtUci (uciOfMove e.1)) := by
  unfold Chain.uciList
  generalize (ch.stack.map fun e => fmtUci (uciOfMove e.1)) = ts
  have key : ∀ (ts : List Bytes) (acc : Bytes),
      (ts.foldl (fun (acc : Bytes × Bool) t => ((if acc.2 then acc.1 else acc.1 ++ [32]) ++ t, false)) (acc, false)).1
        = acc ++ tailSp ts := by
    intro ts
    induction ts with
    | nil => intro acc; simp [tailSp]
    | cons t ts ih =>
      intro acc
      rw [List.foldl_cons]
      simp only [Bool.false_eq_true, if_false]
      rw [ih]
      simp [tailSp]
  cases ts with
  | nil => rfl
  | cons t ts =>
    rw [List.foldl_cons]
    simp only [if_true, List.nil_append]
    rw [key]; rfl

/-- single step: on a valid position the UCI text of a legal move is accepted as exactly that move -/
theorem makeUciStr_fmt (b : Board) (hv : Valid b) (m : Move) (hl : LegalStep b m) :
    makeUciStr b (fmtUci (uciOfMove m)) = .ok (m, (makeMove b m).1) := by
  obtain ⟨ok, h1, _, _, h2⟩ := C02.makeUciStr_of_read b hv _ m
    (C10.uci_roundtrip_valid b.r b ((valid_iff_validate b).mp hv) m hl.wf hl.sl)
  rw [hl.legal] at h1
  cases h1
  exact h2

/-- replaying the UCI texts of a recorded game from its start pushes exactly that game, with no error, and goes on
with whatever tokens follow -/
theorem replay_go {b0 : Board} (h0 : Valid b0) : ∀ {st hs b}, Game b0 st hs b → ∀ (rest : List Bytes),
    ∃ ch', Chain.pushUciList.go (Chain.new b0) (st.map (fun e => fmtUci (uciOfMove e.1)) ++ rest) 0
        = Chain.pushUciList.go ch' rest st.length
      ∧ ChainInv ch' ∧ ch'.stack = st ∧ ch'.board = b ∧ ch'.start = b0.r ∧ ch'.outcome = none := by
  intro st hs b h
  induction h with
  | nil => exact fun _ => ⟨_, rfl, new_chain_inv b0 h0, rfl, rfl, rfl, rfl⟩
  | @snoc st hs bp m hg hl ih =>
    intro rest
    obtain ⟨ch', e, hinv, hst, hbd, hstart, hout⟩ := ih (fmtUci (uciOfMove m) :: rest)
    subst hbd
    have hp : ch'.pushWith (makeUciStr ch'.board (fmtUci (uciOfMove m)))
        = .ok (ch'.finishPush (makeMove ch'.board m).1 m (undoOf ch'.board m)) := by
      rw [makeUciStr_fmt ch'.board hinv.valid m hl]; rfl
    obtain ⟨_, _, _, hinv', _⟩ := push_ok ch' _ hinv _ (makeUciStr_ok ch'.board _ hinv.valid) hp
    refine ⟨_, ?_, hinv', ?_, rfl, hstart, hout⟩
    · rw [List.map_append, List.append_assoc, List.length_append]
      exact e.trans (by simp only [Chain.pushUciList.go, hp]; rfl)
    · rw [← hst]; rfl

/-- C17 (UCI list): the chain's UCI list text, replayed from the start position, is accepted completely and rebuilds
the same start, the same stack (moves and undo records), the same board; the rebuilt chain compares equal to the
original with its stored outcome cleared (the text does not carry the outcome), hence equal to the original whenever
the original has no stored outcome -/
theorem uciList_replay (ch : Chain) (h : ChainInv ch) :
    let r := (Chain.new (buildBoard ch.start)).pushUciList ch.uciList
    r.2 = none ∧ ChainInv r.1 ∧ r.1.start = ch.start ∧ r.1.stack = ch.stack ∧ r.1.board = ch.board
      ∧ r.1.outcome = none ∧ r.1.beq { ch with outcome := none } = true
      ∧ (ch.outcome = none → r.1.beq ch = true) := by
  obtain ⟨hs, hinv⟩ := h
  obtain ⟨ch', e, i2, i3, hb, i4, i5⟩ := replay_go hinv.start hinv.game []
  rw [List.append_nil, Chain.pushUciList.go] at e
  have htok : splitAsciiWhitespace ch.uciList = ch.stack.map fun e => fmtUci (uciOfMove e.1) := by
    rw [uciList_eq]
    apply split_join
    intro t ht
    obtain ⟨e, _, rfl⟩ := List.mem_map.mp ht
    exact fmtUci_good _
  unfold Chain.pushUciList
  rw [htok, e]
  exact ⟨rfl, i2, i4, i3, hb, i5, (beq_iff _ _).mpr ⟨i4, by rw [i3], i5⟩,
    fun ho => (beq_iff _ _).mpr ⟨i4, by rw [i3], by rw [ho]; exact i5⟩⟩

/-- the game as the list of (position before the move, move), in game order -/
def pairs (st : List (Move × RawUndo)) (hs : List Board) : List (Board × Move) :=
  List.zipWith (fun b e => (b, e.1)) hs st

theorem pairs_length {st : List (Move × RawUndo)} {hs : List Board} (hS : Steps st hs) :
    (pairs st hs).length = st.length := by
  unfold pairs; rw [List.length_zipWith, hS.len]; omega

theorem pairs_get {st : List (Move × RawUndo)} {hs : List Board} {k : Nat} {b : Board} {m : Move} {u : RawUndo}
    (h1 : hs[k]? = some b) (h2 : st[k]? = some (m, u)) : (pairs st hs)[k]? = some (b, m) := by
  unfold pairs; rw [List.getElem?_zipWith, h1, h2]

theorem pairs_drop {st : List (Move × RawUndo)} {hs : List Board} {k : Nat} {b : Board} {m : Move} {u : RawUndo}
    (h1 : hs[k]? = some b) (h2 : st[k]? = some (m, u)) :
    (pairs st hs).drop k = (b, m) :: (pairs st hs).drop (k + 1) := by
  obtain ⟨hlt, he⟩ := List.getElem?_eq_some_iff.mp (pairs_get h1 h2)
  rw [List.drop_eq_getElem_cons hlt, he]

theorem pairs_moves (st : List (Move × RawUndo)) : ∀ (hs : List Board), st.length ≤ hs.length →
    (pairs st hs).map (·.2) = st.map (·.1) := by
  induction st with
  | nil => intro hs _; simp [pairs]
  | cons e st ih =>
    rintro (_ | ⟨b, hs⟩) hl
    · simp at hl
    · simpa [pairs] using ih hs (by simpa using hl)

/-- the full-move number never decreases along a game (for a start number in the `u16` range, which the saturating
increment of the model needs) -/
theorem mn_mono {b0 : Board} (hb : b0.r.mn ≤ 65535) {st hs b} (h : Game b0 st hs b) :
    ∀ x ∈ hs, b0.r.mn ≤ x.r.mn := by
  have hall := h.all (P := fun x => b0.r.mn ≤ x.r.mn ∧ x.r.mn ≤ 65535) ⟨Nat.le_refl _, hb⟩ fun b m hp _ => by
    have := satInc_eq b.r.mn
    rw [make_mn]
    split <;> omega
  exact fun x hx => (hall.2 x hx).1

def startNumOf (nums : NumberPolicy) (realStart : Nat) : Option Nat :=
  match nums with
  | .omit => none | .fromBoard => some realStart | .custom u => some u

/-- what is printed before the first move: its number, then `. ` (white to move) or `... ` (black to move) -/
def headTxt (startNum : Option Nat) (b : Board) : Bytes :=
  match startNum with
  | some num => (match b.r.side with
      | .white => fmtNat num ++ [46, 32]
      | .black => fmtNat num ++ [46, 46, 46, 32])
  | none => []

/-- what is printed before a later move made in position `b`: for a white move ` N.` with
`N = b.mn - realStart + num`, nothing for a black move -/
def numTxt (startNum : Option Nat) (realStart : Nat) (b : Board) : Bytes :=
  match startNum with
  | some num => if b.r.side = .white then [32] ++ fmtNat (b.r.mn - realStart + num) ++ [46] else []
  | none => []

/-- the text of the moves after the first: each is (number text) (space) (move text) -/
def itemsTxt (style : MoveStyle) (startNum : Option Nat) (realStart : Nat) : List (Board × Move) → Option Bytes
  | [] => some []
  | (b, mv) :: rest =>
    match fmtStyledMove? mv b style with
    | none => none
    | some t =>
      match itemsTxt style startNum realStart rest with
      | none => none
      | some r => some (numTxt startNum realStart b ++ [32] ++ t ++ r)

theorem loop_spec {st : List (Move × RawUndo)} {hs : List Board} (hS : Steps st hs) (style : MoveStyle)
    (realStart : Nat) (startNum : Option Nat) (hmono : ∀ (i : Nat) (b : Board), hs[i]? = some b → realStart ≤ b.r.mn) :
    ∀ (fuel : Nat) (w : Walker) (out : Bytes), WalkerInv st hs w → st.length - w.pos < fuel →
      Chain.styled?.loop style realStart startNum fuel w out
        = (itemsTxt style startNum realStart ((pairs st hs).drop w.pos)).map (out ++ ·) := by
  intro fuel
  induction fuel with
  | zero => intro w out _ hf; omega
  | succ fuel ih =>
    intro w out hw hf
    unfold Chain.styled?.loop
    rcases next_spec hS w hw with ⟨he, hn⟩ | ⟨hlt, w', b, mv, u, hn, hi, hp, e1, e2⟩
    · rw [hn]
      simp only
      rw [List.drop_eq_nil_of_le (by rw [pairs_length hS, he]; exact Nat.le_refl _)]
      simp [itemsTxt]
    · rw [hn]
      simp only
      rw [pairs_drop e2 e1]
      simp only [itemsTxt]
      have hm := hmono w.pos b e2
      cases hfm : fmtStyledMove? mv b style with
      | none => rfl
      | some t =>
        simp only
        rw [ih w' _ hi (by rw [hp]; omega), hp]
        -- the model's underflow branch is not taken: no move number is below the first one
        have hnum : ∀ num, ¬ (b.r.mn + num < realStart) := fun num => by omega
        cases itemsTxt style startNum realStart ((pairs st hs).drop (w.pos + 1)) <;> cases startNum <;>
          simp [numTxt, hnum, List.append_assoc]

/-- C17 (styled list): the exact output.  The moves are printed in game order, each styled in the position that
preceded it; the first is preceded by its number (`realStart` or the custom one) and `. ` / `... `; every later white
move by ` N.` with `N = (its position's move number) - realStart + (first number)`; the status token, when asked for,
is `fmtStatus` of the stored outcome; the printer panics exactly when some move cannot be styled -/
theorem styled_spec (ch : Chain) (hs : List Board) (h : ChainInvH ch hs) (hmn : ch.start.mn ≤ 65535)
    (nums : NumberPolicy) (style : MoveStyle) (showStatus : Bool) :
    ch.styled? nums style showStatus =
      match pairs ch.stack hs with
      | [] => some (if showStatus then fmtStatus ch.outcome else [])
      | (b0, m0) :: rest =>
        match fmtStyledMove? m0 b0 style, itemsTxt style (startNumOf nums b0.r.mn) b0.r.mn rest with
        | some t, some r =>
          some (headTxt (startNumOf nums b0.r.mn) b0 ++ t ++ r
            ++ (if showStatus then [32] ++ fmtStatus ch.outcome else []))
        | _, _ => none := by
  have hS := steps_of_inv h
  have hw := walk_inv ch hs h
  have hp0 : ch.walk.pos = 0 := rfl
  unfold Chain.styled?
  rcases next_spec hS ch.walk hw with ⟨he, _⟩ | ⟨hlt, w', b, mv, u, hn, hi, hp, e1, e2⟩
  · rw [List.eq_nil_of_length_eq_zero (he.symm.trans hp0)]
    simp [pairs]
  · rw [hp0] at hlt hp e1 e2
    have hne : ch.stack.isEmpty = false := by
      cases hst : ch.stack with
      | nil => rw [hst] at hlt; cases hlt
      | cons _ _ => rfl
    have hd := pairs_drop e2 e1
    rw [List.drop_zero] at hd
    rw [hne, hn, hd]
    simp only [Bool.false_eq_true, if_false]
    have hb0 : b = buildBoard ch.start := Option.some.inj (e2.symm.trans h.game.ends.2.1)
    have hmono : ∀ (i : Nat) (b' : Board), hs[i]? = some b' → b.r.mn ≤ b'.r.mn :=
      fun i b' hb' => hb0 ▸ mn_mono hmn h.game b' (List.mem_of_getElem? hb')
    cases hfm : fmtStyledMove? mv b style with
    | none => rfl
    | some t =>
      simp only
      rw [loop_spec hS style b.r.mn _ hmono _ w' _ hi (by omega), hp]
      -- the model's inline matches on `nums` and on the side are not those of `startNumOf` / `headTxt`: by cases
      cases nums <;> simp only [startNumOf] <;> generalize itemsTxt style _ b.r.mn _ = it <;> cases it
      all_goals first
        | rfl
        | (cases showStatus <;> simp [headTxt, List.append_assoc] <;> cases b.r.side <;> rfl)

/-- the first printed position is the chain's start position, so `realStart` is the start position's move number -/
theorem pairs_head (ch : Chain) (hs : List Board) (h : ChainInvH ch hs) (b0 : Board) (m0 : Move)
    (rest : List (Board × Move)) (hp : pairs ch.stack hs = (b0, m0) :: rest) : b0 = buildBoard ch.start := by
  obtain ⟨b, bs, e, es, rfl, _, hg, _⟩ := List.zipWith_eq_cons_iff.mp hp
  cases hg
  exact Option.some.inj h.game.ends.2.1

/-- numbering with `FromBoard`: a later white move made in position `b` is preceded by ` N.` with `N` the move
number of `b` itself -/
theorem numTxt_fromBoard (realStart : Nat) (b : Board) (hle : realStart ≤ b.r.mn) (hw : b.r.side = .white) :
    numTxt (startNumOf .fromBoard realStart) realStart b = [32] ++ fmtNat b.r.mn ++ [46] := by
  simp only [numTxt, startNumOf, hw, if_true]
  rw [Nat.sub_add_cancel hle]

/-- numbering with `Custom u`: ` N.` with `N = u + (moves numbers elapsed since the start position)` -/
theorem numTxt_custom (u realStart : Nat) (b : Board) (hw : b.r.side = .white) :
    numTxt (startNumOf (.custom u) realStart) realStart b = [32] ++ fmtNat (b.r.mn - realStart + u) ++ [46] := by
  simp only [numTxt, startNumOf, hw, if_true]

/-- a black move is never preceded by a number; with `Omit` no move is -/
theorem numTxt_none (sn : Option Nat) (realStart : Nat) (b : Board) (h : b.r.side = .black ∨ sn = none) :
    numTxt sn realStart b = [] := by
  rcases h with h | h
  · cases sn <;> simp [numTxt, h]
  · subst h; rfl

/-- C17 (status token), for EVERY chain (no invariant needed): the output with the status is the output without it,
then a space (unless there is no move), then `fmtStatus` of the stored outcome -/
theorem styled_status (ch : Chain) (nums : NumberPolicy) (style : MoveStyle) (out : Bytes)
    (h : ch.styled? nums style true = some out) :
    ∃ body, ch.styled? nums style false = some body
      ∧ out = body ++ (if ch.stack.isEmpty then [] else [32]) ++ fmtStatus ch.outcome := by
  unfold Chain.styled? at h ⊢
  by_cases he : ch.stack.isEmpty = true
  · rw [if_pos he] at h ⊢
    cases h
    exact ⟨[], rfl, by simp [he]⟩
  · rw [if_neg he] at h ⊢
    -- with and without the status the printer makes the same calls; follow them in both
    generalize ch.walk.next? = nx at h ⊢
    rcases nx with _ | ⟨w, _ | ⟨b, mv⟩⟩ <;> try cases h
    simp only at h ⊢
    generalize fmtStyledMove? mv b style = tx at h ⊢
    cases tx <;> try cases h
    simp only at h ⊢
    split at h
    · cases h
    · rename_i body _
      cases h
      exact ⟨body, by simp, by simp [he]⟩

/-! non-vacuity: 1. e4 e5 from the initial position -/

/-- the chain after `push_uci_list "e2e4 e7e5"` on the initial position satisfies the invariant all theorems assume -/
example : ChainInv ((Chain.new (buildBoard C04.initialRaw)).pushUciList [101,50,101,52,32,101,55,101,53]).1 :=
  (pushUciList_go _ _ 0 (new_chain_inv _ C04.initial_valid)).1
example : ((Chain.new (buildBoard C04.initialRaw)).pushUciList [101,50,101,52,32,101,55,101,53]).1.uciList
    = [101,50,101,52,32,101,55,101,53] := by decide +kernel

/-- `1. e2e4 e7e5 *` -/
example : ((Chain.new (buildBoard C04.initialRaw)).pushUciList [101,50,101,52,32,101,55,101,53]).1.styled?
    .fromBoard .uci true = some [49,46,32,101,50,101,52,32,101,55,101,53,32,42] := by decide +kernel

/-- next, next, next (at the end: nothing), prev, to_start, next -/
example : (runSteps ((Chain.new (buildBoard C04.initialRaw)).pushUciList [101,50,101,52,32,101,55,101,53]).1.walk
    [.next, .next, .next, .prev, .toStart, .next]).map (fun r => r.2.map (·.2)) =
    some [⟨.double, 1, 52, 36⟩, ⟨.double, 7, 12, 28⟩, ⟨.double, 7, 12, 28⟩, ⟨.double, 1, 52, 36⟩] := by decide +kernel

end Owl.Props.C17
