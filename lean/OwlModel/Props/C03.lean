/-
C03  Applying a move produces the position the rules prescribe.
`Spec.apply` states the successor square by square and field by field (moved / promoted man on the destination,
captured man removed — for en passant the pawn beside the destination —, rook relocated when castling, side
flipped, rights removed exactly for a king or rook that moved and a rook captured on its home square, en-passant
mark exactly after a double step, clocks reset / incremented without wrapping, nothing else changes).
-/
import OwlModel.Lemmas.Valid
import OwlModel.Props.C04
import OwlModel.Props.C11

namespace Owl.Props.C03
open Owl Owl.Impl Owl.Lemmas

/-- the raw position after `make_move_unchecked` equals `Spec.apply` of the position before, for every board with
`Shape`, one king per colour at most, and every well-formed semilegal move that does not capture a king -/
theorem make_refines_apply (b : Board) (mv : Move) (H : ApplyHyp b mv) :
    ∃ sm, absMove mv = some sm ∧ abs (makeMove b mv).1.r = Spec.apply (abs b.r) sm :=
  Lemmas.make_refines_apply b mv H

theorem buildBoard_r (r : RawBoard) : (buildBoard r).r = r := rfl

/-- a board from the validation gate has exactly one king of each colour -/
theorem validate_one_king (raw : RawBoard) (b : Board) (hv : validate raw = .ok b) (c : Color) (s t : Sq)
    (hs : b.get s = Cell.mk c .king) (ht : b.get t = Cell.mk c .king) : s = t :=
  (C11.valid_of_validate raw b hv).checks.king_eq ht hs

/-- in a position from the validation gate no well-formed semilegal move captures a king -/
theorem no_king_capture (raw : RawBoard) (b : Board) (hv : validate raw = .ok b) (mv : Move)
    (hwf : mv.isWellFormed = true) (hsl : isSemilegal b mv = true) (c : Color) : b.get mv.dst ≠ Cell.mk c .king :=
  valid_no_king_capture b (C11.valid_of_validate raw b hv) mv hwf hsl c

/-- C03 for every position accepted by validation and every well-formed semilegal (in particular every legal) move -/
theorem make_refines_apply_valid (raw : RawBoard) (b : Board) (hv : validate raw = .ok b) (mv : Move)
    (hwf : mv.isWellFormed = true) (hsl : isSemilegal b mv = true) :
    ∃ sm, absMove mv = some sm ∧ abs (makeMove b mv).1.r = Spec.apply (abs b.r) sm :=
  Lemmas.make_refines_apply b mv (applyHyp_of_valid b mv (C11.valid_of_validate raw b hv) hwf hsl)

/-- neither counter ever wraps: both stay within the u16 range and never decrease except for the clock reset -/
theorem counters_no_wrap (b : Board) (mv : Move) (hmc : b.r.mc ≤ 65535) (hmn : b.r.mn ≤ 65535) :
    (makeMove b mv).1.r.mc ≤ 65535 ∧ (makeMove b mv).1.r.mn ≤ 65535 ∧ b.r.mn ≤ (makeMove b mv).1.r.mn
      ∧ ((makeMove b mv).1.r.mc = 0 ∨ (makeMove b mv).1.r.mc = min (b.r.mc + 1) 65535) := by
  rw [make_mc, make_mn]
  have h1 := satInc_eq b.r.mc
  have h2 := satInc_eq b.r.mn
  refine ⟨?_, ?_, ?_, ?_⟩
  · split <;> omega
  · split <;> omega
  · split <;> omega
  · split
    · exact Or.inl rfl
    · exact Or.inr h1

/-! non-vacuity: 1. e4 from the initial position satisfies every hypothesis -/
example : (abs (makeMove (buildBoard C04.initialRaw) ⟨.double, 1, 52, 36⟩).1.r)
    = Spec.apply (abs C04.initialRaw) ⟨.double, ⟨.white, .pawn⟩, 52, 36⟩ := by
  obtain ⟨sm, h1, h2⟩ := make_refines_apply_valid C04.initialRaw _ C04.initial_validates ⟨.double, 1, 52, 36⟩
    (by decide +kernel) (by decide +kernel)
  cases h1
  exact h2

end Owl.Props.C03
