/-
C04  Undoing a move restores the position exactly.
-/
import OwlModel.Lemmas.Valid

namespace Owl.Props.C04
open Owl Owl.Impl Owl.Lemmas

/-- every board produced by the validation gate has its derived state equal to the from-scratch recomputation -/
theorem validate_consistent (raw : RawBoard) (b : Board) (h : validate raw = .ok b) : Consistent b :=
  (validate_shape raw b h).cons

/-- apply-then-undo restores squares, side, rights, en-passant mark, both counters, hash and every occupancy set,
for every consistent board and every move meeting the per-kind precondition of `make_move_unchecked`
(semilegal moves, including those that leave the king attacked; the null move) -/
theorem undo_restores (b : Board) (mv : Move) (hb : Consistent b) (ok : MakeOk b mv) :
    unmakeMove (makeMove b mv).1 mv (makeMove b mv).2 = b :=
  unmake_make b mv hb ok

/-- the same for every position accepted by the validation gate and every well-formed semilegal move
(including those that leave the mover's king attacked) -/
theorem undo_restores_semilegal (raw : RawBoard) (b : Board) (mv : Move) (hv : validate raw = .ok b)
    (hwf : mv.isWellFormed = true) (hsl : isSemilegal b mv = true) :
    unmakeMove (makeMove b mv).1 mv (makeMove b mv).2 = b := by
  have hs := validate_shape raw b hv
  exact unmake_make b mv hs.cons (makeOk_of_semilegal b mv hs hwf hsl)

/-- the null move is always undoable -/
theorem undo_null (b : Board) (hb : Consistent b) :
    unmakeMove (makeMove b Move.null).1 Move.null (makeMove b Move.null).2 = b :=
  unmake_make b Move.null hb (by simp [MakeOk, Move.null])

/-- a properly nested apply/undo word: apply `mv`, run `inner`, undo `mv`, continue with `rest` -/
inductive Word
  | done
  | node (mv : Move) (inner rest : Word)

/-- every apply in the word meets its precondition in the state it is applied to -/
def Word.Ok : Board → Word → Prop
  | _, .done => True
  | b, .node mv inner rest => MakeOk b mv ∧ inner.Ok (makeMove b mv).1 ∧ rest.Ok b

/-- execution of a nested word by the undo-returning interface -/
def Word.run : Board → Word → Board
  | b, .done => b
  | b, .node mv inner rest =>
    let (b1, u) := makeMove b mv
    let b2 := inner.run b1
    rest.run (unmakeMove b2 mv u)

/-- arbitrarily deep nested apply/undo sequences (move chains, walkers, search code) end where they started -/
theorem nested_undo : ∀ (w : Word) (b : Board), Consistent b → w.Ok b → w.run b = b
  | .done, _, _, _ => rfl
  | .node mv inner rest, b, hb, ⟨hok, hin, hrest⟩ => by
    have hc1 : Consistent (makeMove b mv).1 := make_consistent b mv hb hok
    have h1 := nested_undo inner (makeMove b mv).1 hc1 hin
    simp only [Word.run]
    rw [h1, unmake_make b mv hb hok]
    exact nested_undo rest b hb hrest

/-! non-vacuity: the initial position is produced by the gate and 1. e4 meets the precondition -/
def initialCells : List Cell :=
  [11, 9, 10, 12, 8, 10, 9, 11, 7, 7, 7, 7, 7, 7, 7, 7] ++ List.replicate 32 0
    ++ [1, 1, 1, 1, 1, 1, 1, 1, 5, 3, 4, 6, 2, 4, 3, 5]

def initialRaw : RawBoard :=
  { cells := Tab.ofFn fun s => initialCells.getD s.val 0, side := .white, castling := 15, ep := none, mc := 0, mn := 1 }

instance (b : Board) (mv : Move) : Decidable (MakeOk b mv) := by
  unfold MakeOk; split <;> infer_instance

/-- the gate on the initial position, evaluated by the kernel here and nowhere else: the non-vacuity examples of the
other properties cite `initial_valid` -/
theorem initial_validates : validate initialRaw = .ok (buildBoard initialRaw) := by decide +kernel

theorem initial_valid : Valid (buildBoard initialRaw) :=
  (valid_iff_validate _).mpr initial_validates

example : validate initialRaw = .ok (buildBoard initialRaw) := initial_validates
example : MakeOk (buildBoard initialRaw) ⟨.double, 1, 52, 36⟩ := by decide +kernel

end Owl.Props.C04
