/-
C01  Legal move generation is exactly the rules of chess.
`legalGen_eq_rules`: on every valid position the legal generator returns, each exactly once, precisely
`Spec.legalMoves` — the rules' pseudo-legal moves (piece movement and captures, single and double pawn steps, en
passant, the four promotions, both castlings) that do not leave the mover's king attacked.
`legalGen_spec`: the capture / simple / simple-no-promote / simple-promote legal generators return exactly the
corresponding subsets (classes of C06), never panic, no duplicates.
`validate_iff_generated`: `Move::validate` and apply-and-test (`impl Make for Move`) agree with that set.
Ingredients: generator exactness (Lemmas/GenExact, GenNodup), prefilter soundness (Lemmas/Pinned, Prefilter: the
generators' `DefaultPrechecker` short-cuts only moves the exact test accepts), exactness of the unprefiltered test on
all three code paths (Lemmas/Checker), `make_refines_apply` (C03), attack queries (C16), tables (C15), and the
pseudo-legal correspondence (Lemmas/PseudoSpec).
-/
import OwlModel.Props.C06
import OwlModel.Lemmas.Prefilter

namespace Owl.Props.C01
open Owl Owl.Impl Owl.Lemmas Owl.Props Owl.Props.C06

/-- the legality test in rule terms: the exact test accepts a semilegal move iff the mover's king is not attacked in
`Spec.apply` of the position -/
theorem legal_iff_rules (b : Board) (mv : Move) (hv : Valid b) (hwf : mv.isWellFormed = true)
    (hsl : isSemilegal b mv = true) (sm : Spec.Move) (hsm : absMove mv = some sm) :
    isLegalUnchecked? b mv = some (!Spec.inCheck (Spec.apply (abs b.r) sm) b.r.side) := by
  obtain ⟨sm', h1, h2⟩ := Lemmas.make_refines_apply b mv (applyHyp_of_valid b mv hv hwf hsl)
  rw [hsm] at h1; cases h1
  rw [← h2]
  exact C02.legal_iff_safe b mv hv hwf hsl

/-- C01: each legal generator returns (without panicking) exactly the moves of its class that are well-formed,
semilegal and accepted by the exact legality test, each once -/
theorem legalGen_spec (b : Board) (hv : Valid b) (w : Which) :
    ∃ l, legalGen? w b = some l ∧ l.Nodup ∧
      ∀ mv, mv ∈ l ↔ (mv.isWellFormed = true ∧ isSemilegal b mv = true ∧ whichClass b w mv = true
        ∧ isLegalUnchecked? b mv = some true) := by
  obtain ⟨ck, hck, hnd, hmem⟩ := legalFilter_spec b hv _ (semilegalGen_nodup b hv w) (fun mv => whichClass b w mv = true)
    fun mv => (semilegalGen_iff b hv w mv).trans and_assoc.symm
  unfold legalGen?
  rw [hck]
  refine ⟨_, rfl, hnd, fun mv => ?_⟩
  rw [hmem]
  exact ⟨fun ⟨⟨h1, h2, h4⟩, h3⟩ => ⟨h1, h2, h3, h4⟩, fun ⟨h1, h2, h3, h4⟩ => ⟨⟨h1, h2, h4⟩, h3⟩⟩

/-- C01: the legal generator returns exactly the legal moves of the rules of chess (`Spec.legalMoves`: pseudo-legal
moves — piece movement, captures, single and double pawn steps, en passant, the four promotions, both castlings — that
do not leave the mover's king attacked), each exactly once -/
theorem legalGen_eq_rules (b : Board) (hv : Valid b) :
    ∃ l, legalGen? .all b = some l ∧ l.Nodup ∧ ∀ sm, sm ∈ Spec.legalMoves (abs b.r) ↔ concMove sm ∈ l := by
  obtain ⟨l, h1, h2, h3⟩ := legalGen_spec b hv .all
  refine ⟨l, h1, h2, ?_⟩
  intro sm
  unfold Spec.legalMoves
  rw [List.mem_filter, pseudo_iff_semilegal b hv, h3]
  constructor
  · intro ⟨⟨hwf, hsl⟩, hleg⟩
    refine ⟨hwf, hsl, inClass_all b _ hsl, ?_⟩
    rw [legal_iff_rules b _ hv hwf hsl sm (absMove_conc sm)]
    rw [abs_side] at hleg
    simpa using hleg
  · intro ⟨hwf, hsl, _, hleg⟩
    refine ⟨⟨hwf, hsl⟩, ?_⟩
    rw [legal_iff_rules b _ hv hwf hsl sm (absMove_conc sm)] at hleg
    rw [abs_side]
    simpa using hleg

/-- C01: every other way the library decides the legality of a single move agrees: `Move::validate`, and applying the
move and testing whether the mover's king is attacked (`TryUnchecked`, `impl Make for Move`) -/
theorem validate_iff_generated (b : Board) (hv : Valid b) (mv : Move) (hwf : mv.isWellFormed = true) :
    ∃ l, legalGen? .all b = some l ∧
      ((validateMove b mv = .ok ()) ↔ mv ∈ l) ∧ ((∃ b', makeMoveChecked b mv = .ok b') ↔ mv ∈ l) := by
  obtain ⟨l, h1, _, h3⟩ := legalGen_spec b hv .all
  refine ⟨l, h1, ?_, ?_⟩
  · rw [h3, validateMove_ok]
    exact ⟨fun ⟨hsl, hl⟩ => ⟨hwf, hsl, inClass_all b mv hsl, hl⟩, fun ⟨_, hsl, _, hl⟩ => ⟨hsl, hl⟩⟩
  · rw [h3]
    constructor
    · intro ⟨b', h⟩
      obtain ⟨hsl, hleg, _⟩ := (C02.make_checked_iff b mv hv hwf b').mp h
      exact ⟨hwf, hsl, inClass_all b mv hsl, hleg⟩
    · intro ⟨_, hsl, _, hleg⟩
      exact ⟨_, (C02.make_checked_iff b mv hv hwf _).mpr ⟨hsl, hleg, rfl⟩⟩

end Owl.Props.C01
