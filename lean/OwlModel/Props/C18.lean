/-
C18  White and Black, and left and right, are treated symmetrically.
Rules level (Lemmas/MirrorSpec, proved once for an abstract board symmetry, `Sym.rules_mir`, and instantiated twice here):
`rules_mirror_v` / `rules_mirror_h` — the mirror image of a valid position is valid, normalisation commutes with mirroring, and on the
normalised position the legal moves are exactly the mirror images, check is preserved (for the swapped colour under V),
"no legal move", insufficient material and the outcome are preserved (winner swapped under V).  H needs "no castling
rights".  The file also proves by kernel-checked counterexamples that the side conditions are necessary.
Implementation level (here): `abs_mirror` / `abs_mirrorH` — the raw-board mirror the harness applies corresponds to the
rules-level mirror; `mirror_v_impl` / `mirror_h_impl` — end to end: the mirrored raw board passes the validation gate,
the legal generator's output on it is exactly the mirror image of its output on the original (through C01), and
`calc_outcome` gives the same classification with the winner swapped (through C07).
-/
import OwlModel.Lemmas.MirrorSpec
import OwlModel.Props.C07

namespace Owl.Props.C18
open Owl Owl.Impl Owl.Lemmas Owl.Props

/-- the implementation-side mirror (top to bottom, colours swapped): what the driver's `mirror v` applies to a raw board -/
def mirrorCellV (c : Cell) : Cell :=
  if c.val = 0 then c else if c.val ≤ 6 then ⟨(c.val + 6) % 13, Nat.mod_lt _ (by decide)⟩
  else ⟨(c.val - 6) % 13, Nat.mod_lt _ (by decide)⟩
def mirrorRightsV (r : Rights) : Rights := ⟨(r.val / 4 + (r.val % 4) * 4) % 16, Nat.mod_lt _ (by decide)⟩
def mirrorRawV (r : RawBoard) : RawBoard :=
  { cells := Tab.ofFn fun s => mirrorCellV (r.cells.get (Sq.flipRank s)), side := r.side.inv,
    castling := mirrorRightsV r.castling, ep := r.ep.map Sq.flipRank, mc := r.mc, mn := r.mn }

theorem absCell_mirror : ∀ c : Cell, absCell (mirrorCellV c) = (absCell c).map mirrorManV := by decide
theorem absRights_mirror : ∀ r : Rights, absRights (mirrorRightsV r) =
    ⟨(absRights r).bk, (absRights r).bq, (absRights r).wk, (absRights r).wq⟩ := by decide

/-- the two mirrors correspond under the abstraction -/
theorem abs_mirror (r : RawBoard) : abs (mirrorRawV r) = mirrorV (abs r) := by
  apply pos_ext_get
  · intro s
    rw [get_mirrorV, get_abs, get_abs]
    show absCell ((Tab.ofFn fun s => mirrorCellV (r.cells.get (Sq.flipRank s))).get s) = _
    rw [Tab.get_ofFn, absCell_mirror]
    rfl
  · rfl
  · show absRights (mirrorRightsV r.castling) = _
    rw [absRights_mirror]; rfl
  · rfl
  · rfl
  · rfl

/-- C18 at the level of the rules, top-to-bottom mirror with the colours swapped: for a valid raw position `p` the mirror
image is valid, mirroring commutes with normalisation, and on the normalised position the legal moves of the mirror image
are exactly the mirror images of the legal moves, check is preserved (for the swapped colour), and so are "no legal
move", insufficient material and the outcome (winner swapped). -/
theorem rules_mirror_v {p : Spec.Pos} (hv : Spec.ValidRaw p = true) :
    Spec.ValidRaw (mirrorV p) = true
    ∧ Spec.normalise (mirrorV p) = mirrorV (Spec.normalise p)
    ∧ (∀ m, m ∈ Spec.legalMoves (mirrorV (Spec.normalise p)) ↔ mirrorMoveV m ∈ Spec.legalMoves (Spec.normalise p))
    ∧ (∀ c, Spec.inCheck (mirrorV (Spec.normalise p)) c.inv = Spec.inCheck (Spec.normalise p) c)
    ∧ (Spec.legalMoves (mirrorV (Spec.normalise p))).isEmpty = (Spec.legalMoves (Spec.normalise p)).isEmpty
    ∧ Spec.insufficient (mirrorV (Spec.normalise p)) = Spec.insufficient (Spec.normalise p)
    ∧ Spec.outcome (mirrorV (Spec.normalise p)) = (Spec.outcome (Spec.normalise p)).map swapWinner := by
  rw [swapWinner_eq]
  exact symV.rules_mir hv (Or.inl trivial)

/-- C18 at the level of the rules, left-to-right mirror, for valid raw positions without castling rights -/
theorem rules_mirror_h {p : Spec.Pos} (hv : Spec.ValidRaw p = true) (hr : p.rights = Spec.RightsSet.none) :
    Spec.ValidRaw (mirrorH p) = true
    ∧ Spec.normalise (mirrorH p) = mirrorH (Spec.normalise p)
    ∧ (∀ m, m ∈ Spec.legalMoves (mirrorH (Spec.normalise p)) ↔ mirrorMoveH m ∈ Spec.legalMoves (Spec.normalise p))
    ∧ (∀ c, Spec.inCheck (mirrorH (Spec.normalise p)) c = Spec.inCheck (Spec.normalise p) c)
    ∧ (Spec.legalMoves (mirrorH (Spec.normalise p))).isEmpty = (Spec.legalMoves (Spec.normalise p)).isEmpty
    ∧ Spec.insufficient (mirrorH (Spec.normalise p)) = Spec.insufficient (Spec.normalise p)
    ∧ Spec.outcome (mirrorH (Spec.normalise p)) = Spec.outcome (Spec.normalise p) := by
  obtain ⟨h1, h2, h3, h4, h5, h6, h7⟩ := symH.rules_mir hv (Or.inr hr)
  rw [mirrorH_eq p, mirrorH_eq (Spec.normalise p)]
  exact ⟨h1, h2, h3, h4, h5, h6, h7.trans (mapWinner_id _)⟩

/-- The part common to both mirrors. `raw'` abstracts to the image `M` of what `raw` abstracts to, an image that is
valid, commutes with normalisation and carries legal moves to legal moves (by `mm`): then `raw'` passes the gate, its
board abstracts to the image of the board of `raw`, and the outputs of the legal generator correspond. -/
theorem mirror_impl {raw raw' : RawBoard} {b : Board} (hv : validate raw = .ok b) {M : Spec.Pos → Spec.Pos}
    {mm : Spec.Move → Spec.Move} (hM : abs raw' = M (abs raw)) (m1 : Spec.ValidRaw (M (abs raw)) = true)
    (m2 : Spec.normalise (M (abs raw)) = M (Spec.normalise (abs raw)))
    (m3 : ∀ m, m ∈ Spec.legalMoves (M (Spec.normalise (abs raw))) ↔ mm m ∈ Spec.legalMoves (Spec.normalise (abs raw))) :
    ∃ b', validate raw' = .ok b' ∧ abs b'.r = M (abs b.r) ∧ abs b.r = Spec.normalise (abs raw) ∧ Valid b ∧ Valid b'
      ∧ ∃ l l', legalGen? .all b = some l ∧ legalGen? .all b' = some l'
          ∧ ∀ sm, concMove sm ∈ l' ↔ concMove (mm sm) ∈ l := by
  obtain ⟨_, habs, _⟩ := C11.validate_ok raw b hv
  rw [← hM] at m1
  obtain ⟨b', hb'⟩ := (C11.validate_ok_iff raw').mpr m1
  obtain ⟨_, habs', _⟩ := C11.validate_ok _ b' hb'
  have hab : abs b'.r = M (abs b.r) := by rw [habs', hM, m2, habs]
  have hvb := C02.validate_valid raw b hv
  have hvb' := C02.validate_valid _ b' hb'
  obtain ⟨l, h1, _, h3⟩ := C01.legalGen_eq_rules b hvb
  obtain ⟨l', h1', _, h3'⟩ := C01.legalGen_eq_rules b' hvb'
  refine ⟨b', hb', hab, habs, hvb, hvb', l, l', h1, h1', fun sm => ?_⟩
  rw [← h3', ← h3, hab, habs]
  exact m3 sm

/-- C18 end to end (top-to-bottom mirror with colours swapped): if a raw board passes the validation gate, so does its
mirror image; the legal generator's output on the mirrored board consists exactly of the mirror images of its output on
the original; and `calc_outcome` gives the same classification with the winner swapped -/
theorem mirror_v_impl (raw : RawBoard) (b : Board) (hv : validate raw = .ok b) :
    ∃ b', validate (mirrorRawV raw) = .ok b' ∧ abs b'.r = mirrorV (abs b.r)
      ∧ (∃ l l', legalGen? .all b = some l ∧ legalGen? .all b' = some l'
          ∧ ∀ sm, concMove sm ∈ l' ↔ concMove (mirrorMoveV sm) ∈ l)
      ∧ (∃ o : Option Spec.Outcome, Impl.calcOutcome? b = some (o.map C07.ofSpec)
          ∧ Impl.calcOutcome? b' = some ((o.map swapWinner).map C07.ofSpec))
      ∧ (∀ c, Spec.inCheck (abs b'.r) c.inv = Spec.inCheck (abs b.r) c) := by
  obtain ⟨hvalid, _, _⟩ := C11.validate_ok raw b hv
  obtain ⟨m1, m2, m3, m4, _, _, m7⟩ := rules_mirror_v hvalid
  obtain ⟨b', hb', hab, habs, hvb, hvb', hgen⟩ := mirror_impl hv (abs_mirror raw) m1 m2 m3
  refine ⟨b', hb', hab, hgen, ⟨Spec.outcome (abs b.r), C07.calcOutcome_eq b hvb, ?_⟩, fun c => ?_⟩
  · rw [C07.calcOutcome_eq b' hvb', hab, habs, m7]
  · rw [hab, habs]; exact m4 c

/-- the left-to-right mirror of a raw board (colours kept) -/
def mirrorRawH (r : RawBoard) : RawBoard :=
  { cells := Tab.ofFn fun s => r.cells.get (Sq.flipFile s), side := r.side,
    castling := r.castling, ep := r.ep.map Sq.flipFile, mc := r.mc, mn := r.mn }

/- The fields of `mirrorH p` one by one: on `(abs (mirrorRawH r)).side = (mirrorH (abs r)).side` a bare `rfl` makes the
unifier compare the two positions first and unfold `Tab.ofFn`. -/
theorem mirrorH_side (p : Spec.Pos) : (mirrorH p).side = p.side := by unfold mirrorH; rfl
theorem mirrorH_rights (p : Spec.Pos) : (mirrorH p).rights = p.rights := by unfold mirrorH; rfl
theorem mirrorH_ep (p : Spec.Pos) : (mirrorH p).ep = p.ep.map mirrorSqH := by unfold mirrorH; rfl
theorem mirrorH_half (p : Spec.Pos) : (mirrorH p).half = p.half := by unfold mirrorH; rfl
theorem mirrorH_full (p : Spec.Pos) : (mirrorH p).full = p.full := by unfold mirrorH; rfl

theorem abs_mirrorH (r : RawBoard) : abs (mirrorRawH r) = mirrorH (abs r) := by
  apply pos_ext_get
  · intro s
    rw [get_mirrorH, get_abs, get_abs]
    show absCell ((Tab.ofFn fun s => r.cells.get (Sq.flipFile s)).get s) = _
    rw [Tab.get_ofFn]
    rfl
  · rw [mirrorH_side, abs_side, abs_side]; unfold mirrorRawH; rfl
  · rw [mirrorH_rights, abs_rights, abs_rights]; unfold mirrorRawH; rfl
  · rw [mirrorH_ep, abs_ep, abs_ep]; unfold mirrorRawH mirrorSqH; rfl
  · rw [mirrorH_half, abs_half, abs_half]; unfold mirrorRawH; rfl
  · rw [mirrorH_full, abs_full, abs_full]; unfold mirrorRawH; rfl

theorem absRights_zero : absRights (0 : Rights) = Spec.RightsSet.none := by decide

/-- C18 end to end (left-to-right mirror) for positions without castling rights -/
theorem mirror_h_impl (raw : RawBoard) (b : Board) (hv : validate raw = .ok b) (hr : raw.castling = 0) :
    ∃ b', validate (mirrorRawH raw) = .ok b' ∧ abs b'.r = mirrorH (abs b.r)
      ∧ (∃ l l', legalGen? .all b = some l ∧ legalGen? .all b' = some l'
          ∧ ∀ sm, concMove sm ∈ l' ↔ concMove (mirrorMoveH sm) ∈ l)
      ∧ Impl.calcOutcome? b' = Impl.calcOutcome? b
      ∧ (∀ c, Spec.inCheck (abs b'.r) c = Spec.inCheck (abs b.r) c) := by
  obtain ⟨hvalid, _, _⟩ := C11.validate_ok raw b hv
  have hrn : (abs raw).rights = Spec.RightsSet.none := by rw [abs_rights, hr]; exact absRights_zero
  obtain ⟨m1, m2, m3, m4, _, _, m7⟩ := rules_mirror_h hvalid hrn
  obtain ⟨b', hb', hab, habs, hvb, hvb', hgen⟩ := mirror_impl hv (abs_mirrorH raw) m1 m2 m3
  refine ⟨b', hb', hab, hgen, ?_, fun c => ?_⟩
  · rw [C07.calcOutcome_eq b' hvb', C07.calcOutcome_eq b hvb, hab, habs, m7]
  · rw [hab, habs]; exact m4 c

end Owl.Props.C18
