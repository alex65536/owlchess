/-
C01 (continued): counting. The rules layer enumerates every pseudo-legal and every legal move exactly once
(`pseudoMoves_nodup`, `legalMoves_nodup`, for EVERY position); the legal generator's output on a valid board is a
permutation of the rules' legal moves (`legalGen_perm`); and therefore perft — the number of move sequences of a given
length — computed through the implementation model's generator and make (`Drv.perftM`, the very function the driver
runs against the Rust library's perft) equals perft by the rules (`Spec.perft`) for EVERY depth and EVERY valid
position (`perft_eq`). The published perft numbers are thereby statements about `Spec.perft` that the correspondence
runs compare with the implementation (C01_sanity pins depth 1 in the kernel).
-/
import OwlModel.Props.C01
import OwlModel.Props.C03
import OwlModel.Driver.ChainOps
import OwlModel.Props.C04_objects
namespace Owl.Props.C01
open Owl Owl.Impl Owl.Lemmas Owl.Props

theorem step_fwd_ne (c : Color) (s t : Sq) (h : Spec.step s (0, Spec.forward c) = some t) :
    Spec.step s (-1, Spec.forward c) ≠ some t ∧ Spec.step s (1, Spec.forward c) ≠ some t := by
  rw [step_iff] at h
  constructor <;> (intro h'; rw [step_iff] at h'; omega)

theorem step_cap_ne (c : Color) (s t : Sq) (h : Spec.step s (-1, Spec.forward c) = some t) :
    Spec.step s (1, Spec.forward c) ≠ some t := by
  rw [step_iff] at h
  intro h'; rw [step_iff] at h'; omega

theorem targets_nodup (P : Spec.Pos) (pc : Piece) (s : Sq) : (targets P pc s).Nodup := by
  cases pc
  case knight => exact stepsOf_nodup s _ (by decide)
  case king => exact stepsOf_nodup s _ (by decide)
  all_goals exact List.Nodup.sublist (slide_sublist _ s _) (rays_nodup _ s)

theorem pawnTo_nodup (c : Color) (s : Sq) (k : Kind) (t : Sq) : (pawnTo c s k t).Nodup := by
  unfold pawnTo
  split
  · apply nodup_map_of_inj
    · unfold Spec.promKinds; decide
    · intro a b h; injection h
  · exact List.pairwise_singleton _ _

theorem pushPart_nodup (P : Spec.Pos) (s : Sq) (c : Color) : (pushPart P s c).Nodup := by
  unfold pushPart
  cases Spec.step s (0, Spec.forward c) with
  | none => exact List.nodup_nil
  | some t =>
    refine nodup_ite_prop _ _ ?_
    rw [List.nodup_append]
    refine ⟨pawnTo_nodup _ _ _ _, nodup_ite_prop _ _ ?_, fun a ha b hb e => ?_⟩
    · cases Spec.step t (0, Spec.forward c) with
      | none => exact List.nodup_nil
      | some u => exact nodup_ite_prop _ _ (List.pairwise_singleton _ _)
    · -- the single steps are plain moves or promotions, the other part holds the double step only
      have hk := kindOK_cases ((mem_pawnTo c s t a).mp ha).2.2.2
      have hb' : b.kind = .double := by
        rw [List.mem_ite_nil_right] at hb
        cases h2 : Spec.step t (0, Spec.forward c) with
        | none => rw [h2] at hb; cases hb.2
        | some u =>
          rw [h2] at hb
          simp only [List.mem_ite_nil_right, List.mem_singleton] at hb
          rw [hb.2.2]
      rw [e, hb'] at hk
      simp at hk

theorem capAt_nodup (P : Spec.Pos) (s : Sq) (c : Color) (df : Int) : (capAt P s c df).Nodup := by
  unfold capAt
  cases Spec.step s (df, Spec.forward c) with
  | none => exact List.nodup_nil
  | some t =>
    dsimp only
    cases P.get t with
    | some x => exact nodup_ite_prop _ _ (pawnTo_nodup _ _ _ _)
    | none =>
      dsimp only
      cases P.ep with
      | none => exact List.nodup_nil
      | some e => exact nodup_ite_prop _ _ (List.pairwise_singleton _ _)

theorem pawnMoves_nodup (P : Spec.Pos) (s : Sq) (c : Color) : (Spec.pawnMoves P s c).Nodup := by
  rw [pawnMoves_eq]
  simp only [List.flatMap_cons, List.flatMap_nil, List.append_nil]
  rw [List.nodup_append, List.nodup_append]
  refine ⟨pushPart_nodup P s c, ⟨capAt_nodup P s c _, capAt_nodup P s c _, ?_⟩, ?_⟩
  · intro a ha b hb e
    subst e
    rw [mem_capAt] at ha hb
    exact step_cap_ne c s a.dst ha.2.2.1 hb.2.2.1
  · intro a ha b hb e
    subst e
    rw [mem_pushPart] at ha
    have hcap : (Spec.step s (-1, Spec.forward c) = some a.dst ∨ Spec.step s (1, Spec.forward c) = some a.dst)
        ∧ a.kind ≠ .double := by
      rw [List.mem_append, mem_capAt, mem_capAt] at hb
      rcases hb with ⟨_, _, h1, h2⟩ | ⟨_, _, h1, h2⟩
      · exact ⟨Or.inl h1, h2.kind_ne_double⟩
      · exact ⟨Or.inr h1, h2.kind_ne_double⟩
    rcases ha.2.2 with ⟨h, _⟩ | ⟨h, _⟩
    · have := step_fwd_ne c s a.dst h
      rcases hcap.1 with h' | h'
      · exact this.1 h'
      · exact this.2 h'
    · exact hcap.2 h

theorem pieceMoves_nodup (P : Spec.Pos) (s : Sq) (m : Spec.Man) : (Spec.pieceMoves P s m).Nodup := by
  by_cases hp : m.piece = .pawn
  · unfold Spec.pieceMoves; rw [hp]; exact pawnMoves_nodup P s m.color
  · rw [pieceMoves_eq P s m hp]
    refine List.Pairwise.filterMap _ ?_ (targets_nodup P m.piece s)
    intro a a' hne x ha x' hb e
    subst e
    apply hne
    split at ha
    · split at hb
      · cases ha; cases hb; rfl
      · cases hb
    · cases ha

theorem castleMoves_nodup (P : Spec.Pos) (c : Color) : (Spec.castleMoves P c).Nodup := by
  unfold Spec.castleMoves
  simp only
  split <;> split <;> simp

theorem pseudoMoves_nodup (p : Spec.Pos) : (Spec.pseudoMoves p).Nodup := by
  rw [pseudoMoves_eq, List.nodup_append]
  have hsrc : ∀ s x, x ∈ fromSq p s → x.src = s ∧ x.kind ≠ .castleK ∧ x.kind ≠ .castleQ := by
    intro s x hx
    obtain ⟨m, _, _, hm⟩ := (mem_fromSq p s x).mp hx
    exact (pieceMoves_shape hm).2
  refine ⟨nodup_flatMap_key _ _ Spec.Move.src (List.nodup_finRange 64) (fun s _ => ?_)
    (fun s _ x hx => (hsrc s x hx).1), castleMoves_nodup _ _, ?_⟩
  · unfold fromSq
    split
    · split
      · exact List.nodup_nil
      · exact pieceMoves_nodup _ _ _
    · exact List.nodup_nil
  · intro a ha b hb e
    subst e
    obtain ⟨s, _, ha⟩ := List.mem_flatMap.mp ha
    rcases (castleMoves_shape hb).2.2.1 with h | h
    · exact (hsrc s a ha).2.1 h
    · exact (hsrc s a ha).2.2 h

theorem legalMoves_nodup (p : Spec.Pos) : (Spec.legalMoves p).Nodup :=
  List.Pairwise.filter _ (pseudoMoves_nodup p)

/-- every move the legal generator returns on a valid board is legal, and is the image of a rules move -/
theorem legalGen_mem (b : Board) (hv : Valid b) (l : List Move) (hl : legalGen? .all b = some l) (mv : Move)
    (hm : mv ∈ l) :
    mv.isWellFormed = true ∧ isSemilegal b mv = true ∧ isLegalUnchecked? b mv = some true
      ∧ ∃ sm, absMove mv = some sm ∧ concMove sm = mv := by
  obtain ⟨l', h1, _, h3⟩ := legalGen_spec b hv .all
  rw [hl] at h1; cases h1
  obtain ⟨hwf, hsl, _, hleg⟩ := (h3 mv).mp hm
  obtain ⟨sm, ha, hc, _⟩ := semilegal_abs b hv mv hwf hsl
  exact ⟨hwf, hsl, hleg, sm, ha, hc⟩

theorem legalGen_perm (b : Board) (hv : Valid b) :
    ∃ l, legalGen? .all b = some l ∧ List.Perm l ((Spec.legalMoves (abs b.r)).map concMove) := by
  obtain ⟨l, h1, h2, h3⟩ := legalGen_eq_rules b hv
  refine ⟨l, h1, ?_⟩
  rw [List.perm_ext_iff_of_nodup h2
    (nodup_map_of_inj _ _ (legalMoves_nodup _) concMove_inj)]
  intro mv
  rw [List.mem_map]
  constructor
  · intro hm
    obtain ⟨_, _, _, sm, _, hc⟩ := legalGen_mem b hv l h1 mv hm
    refine ⟨sm, ?_, hc⟩
    rw [h3 sm, hc]; exact hm
  · rintro ⟨sm, hsm, rfl⟩
    exact (h3 sm).mp hsm

theorem foldl_add_eq_sum {α : Type} (f : α → Nat) : ∀ (l : List α) (a : Nat),
    l.foldl (fun acc m => acc + f m) a = a + (l.map f).sum
  | [], a => by simp
  | x :: t, a => by
    rw [List.foldl_cons, foldl_add_eq_sum f t, List.map_cons, List.sum_cons, Nat.add_assoc]

theorem perft_eq (d : Nat) (b : Board) (hv : Valid b) : Owl.Drv.perftM d b = Spec.perft d (abs b.r) := by
  induction d generalizing b with
  | zero => unfold Owl.Drv.perftM Spec.perft; rfl
  | succ n ih =>
    obtain ⟨l, h1, hperm⟩ := legalGen_perm b hv
    unfold Owl.Drv.perftM Spec.perft
    rw [h1]
    simp only
    rw [foldl_add_eq_sum, foldl_add_eq_sum, Nat.zero_add, Nat.zero_add,
      (hperm.map fun m => Owl.Drv.perftM n (makeMove b m).1).sum_nat, List.map_map]
    have hpt : ∀ sm ∈ Spec.legalMoves (abs b.r),
        ((fun m => Owl.Drv.perftM n (makeMove b m).1) ∘ concMove) sm
          = (fun m => Spec.perft n (Spec.apply (abs b.r) m)) sm := by
      intro sm hsm
      have hm : concMove sm ∈ l := hperm.mem_iff.mpr (List.mem_map_of_mem hsm)
      obtain ⟨hwf, hsl, hleg, _⟩ := legalGen_mem b hv l h1 _ hm
      have hv' := valid_make b _ hv hwf hsl hleg
      obtain ⟨sm', ha, hr⟩ := Lemmas.make_refines_apply b _ (applyHyp_of_valid b _ hv hwf hsl)
      rw [absMove_conc] at ha
      cases ha
      simp only [Function.comp]
      rw [ih _ hv', hr]
    rw [List.map_congr_left hpt]

/-- non-vacuity: the initial position is a valid board (so `perft_eq` applies to it at every depth) -/
example : ∃ b : Board, Valid b := ⟨buildBoard C04.initialRaw, C04.initial_valid⟩

example (d : Nat) : Owl.Drv.perftM d (buildBoard C04.initialRaw)
    = Spec.perft d (abs (buildBoard C04.initialRaw).r) :=
  perft_eq d _ C04.initial_valid

end Owl.Props.C01
