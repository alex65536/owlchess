/-
C08  FEN formatting and FEN parsing are mutually inverse.

`fen_roundtrip`            : for every raw board whose en-passant mark lies on the rank of a pawn that has just made a
                             double step (for the side to move) and whose two counters fit `u16`, `parseFen (fmtFen r) = .ok r`
                             (all six fields, `RawBoard` equality).
`fen_roundtrip_iff`        : those three hypotheses are also necessary.
`fen_parse_format_parse`   : every board the parser returns satisfies them, so parse → format → parse is stable.
Intermediate facts: `cells_roundtrip` (run-length encoding of empty squares, `/` separators), `counter_roundtrip`
(decimal `u16`), `splitSpaces_six` / `fmtFen_split` (six fields on single spaces), `ep_roundtrip`, `fmtFen_ascii`.
The written text itself is described in Lemmas/FenText.
-/
import OwlModel.Lemmas.FenText
import OwlModel.Props.C12
import OwlModel.Props.C20
import OwlModel.Props.C04
import OwlModel.Lemmas.Valid
namespace Owl.Props.C08
open Owl Owl.Impl Owl.Lemmas Owl.Props

theorem splitSpaces_six (p0 p1 p2 p3 p4 p5 : Bytes)
    (h0 : 32 ∉ p0) (h1 : 32 ∉ p1) (h2 : 32 ∉ p2) (h3 : 32 ∉ p3) (h4 : 32 ∉ p4) (h5 : 32 ∉ p5) :
    splitSpaces (p0 ++ 32 :: (p1 ++ 32 :: (p2 ++ 32 :: (p3 ++ 32 :: (p4 ++ 32 :: p5)))))
      = [p0, p1, p2, p3, p4, p5] := by
  rw [splitSpaces_eq_splitOn]
  exact splitOn_join 32 [p1, p2, p3, p4, p5] p0 (by simp [h0, h1, h2, h3, h4, h5])

theorem parseU16_digits (l : Bytes) (hne : l ≠ []) (hd : ∀ b ∈ l, isDigit b = true) :
    parseU16 l = if decVal l ≤ 65535 then some (decVal l) else none := by
  unfold parseU16
  dsimp only
  split
  · rename_i rest
    have := hd 43 (by simp)
    simp [isDigit] at this
  · have h1 : l.isEmpty = false := by cases l <;> simp_all
    have h2 : l.all isDigit = true := List.all_eq_true.mpr hd
    simp [h1, h2]

theorem counter_roundtrip (n : Nat) (h : n ≤ 65535) : parseU16 (fmtNat n) = some n := by
  obtain ⟨h1, h2, h3⟩ := fmtNat_spec n
  rw [parseU16_digits _ h1 h2, (h3 h).1, if_pos h]

theorem loop_digit (e : Nat) (rest : Bytes) (file rank pos : Nat) (cells : Tab 64 Cell)
    (h1 : 1 ≤ e) (h8 : file + e ≤ 8) :
    parseCellsLoop ((48 + e) :: rest) file rank pos cells = parseCellsLoop rest (file + e) rank (pos + e) cells := by
  have hd : 49 ≤ 48 + e ∧ 48 + e ≤ 56 := by omega
  have ho : ¬ (file + e > 8) := by omega
  have he : 48 + e - 48 = e := by omega
  rw [parseCellsLoop]
  simp only [hd, and_self, if_true, he, ho, if_false]

theorem loop_slash (rest : Bytes) (rank pos : Nat) (cells : Tab 64 Cell) (hr : rank + 1 < 8) :
    parseCellsLoop (47 :: rest) 8 rank pos cells = parseCellsLoop rest 0 (rank + 1) pos cells := by
  have ho : ¬ (rank + 1 ≥ 8) := by omega
  rw [parseCellsLoop]
  simp [ho]

theorem loop_cell (x : Cell) (rest : Bytes) (file rank pos : Nat) (cells : Tab 64 Cell)
    (hf : file < 8) (hp : pos < 64) :
    parseCellsLoop (cellByte x :: rest) file rank pos cells
      = parseCellsLoop rest (file + 1) rank (pos + 1) (cells.put ⟨pos, hp⟩ x) := by
  obtain ⟨_, _, h2, h1⟩ := cellByte_plain x
  have hf' : ¬ file ≥ 8 := by omega
  rw [parseCellsLoop]
  simp only [h1, if_false, h2, hf', cellOfByte_cellByte, hp, dite_true]

/-- the table that holds `done` on its first squares and is empty after them: the parser's table when it has read the
text of `done` -/
def tabOf (done : List Cell) : Tab 64 Cell := Tab.ofFn fun s => done.getD s.val Cell.empty

theorem tabOf_empties (done : List Cell) (e : Nat) : tabOf (done ++ List.replicate e Cell.empty) = tabOf done :=
  Tab.ext fun s => by
    simp only [tabOf, Tab.get_ofFn, List.getD_eq_getElem?_getD, List.getElem?_append, List.getElem?_replicate]
    split
    · rfl
    · rw [List.getElem?_eq_none (by omega)]
      split <;> rfl

theorem tabOf_put (done : List Cell) (hp : done.length < 64) (x : Cell) :
    (tabOf done).put ⟨done.length, hp⟩ x = tabOf (done ++ [x]) :=
  Tab.ext fun s => by
    simp only [tabOf, Tab.get_put, Tab.get_ofFn, List.getD_eq_getElem?_getD, List.getElem?_append]
    by_cases hs : (⟨done.length, hp⟩ : Sq) = s
    · subst hs; simp
    · have : s.val ≠ done.length := fun e => hs (Fin.ext e.symm)
      rw [if_neg hs]
      split
      · rfl
      · rw [List.getElem?_eq_none (by omega), List.getElem?_eq_none (by simp; omega)]

theorem loop_flush (e f r : Nat) (done : List Cell) (rest : Bytes) (h8 : f + e ≤ 8) :
    parseCellsLoop (flushDigit e ++ rest) f r done.length (tabOf done)
      = parseCellsLoop rest (f + e) r (done ++ List.replicate e Cell.empty).length
          (tabOf (done ++ List.replicate e Cell.empty)) := by
  rw [tabOf_empties]
  by_cases he : e = 0
  · subst he; simp [flushDigit_zero]
  · rw [flushDigit_pos he, List.singleton_append, loop_digit e rest f r _ _ (by omega) h8]
    simp

/-- the parser on the text of a run of cells with `e` empty squares pending in the text, from the state in which
`done` has been read: it goes on with the rest of the input, the cells stored -/
theorem loop_encRow : ∀ (cs : List Cell) (e f r : Nat) (done : List Cell) (rest : Bytes),
    f + e + cs.length ≤ 8 → done.length + e + cs.length ≤ 64 →
    parseCellsLoop (encRow e cs ++ rest) f r done.length (tabOf done)
      = parseCellsLoop rest (f + e + cs.length) r (done ++ List.replicate e Cell.empty ++ cs).length
          (tabOf (done ++ List.replicate e Cell.empty ++ cs))
  | [], e, f, r, done, rest, h8, _ => by
    rw [encRow, loop_flush e f r done rest (by simpa using h8)]
    simp
  | x :: cs, e, f, r, done, rest, h8, h64 => by
    simp only [List.length_cons] at h8 h64
    by_cases hfree : x.isFree = true
    · rw [encRow_free hfree, loop_encRow cs (e + 1) f r done rest (by omega) (by omega), isFree_eq x hfree]
      simp [List.replicate_succ', Nat.add_assoc, Nat.add_comm 1]
    · have hp : (done ++ List.replicate e Cell.empty).length < 64 := by simp; omega
      have hlen : (done ++ List.replicate e Cell.empty).length + 1
          = (done ++ List.replicate e Cell.empty ++ [x]).length := by simp [Nat.add_assoc]
      rw [encRow_occ hfree, List.append_assoc, loop_flush e f r done _ (by omega), List.cons_append,
        loop_cell x _ _ r _ _ (by omega) hp, tabOf_put, hlen,
        loop_encRow cs 0 _ r _ rest (by omega) (by simp; omega)]
      simp [Nat.add_assoc, Nat.add_comm 1]

/-- the parser on whole ranks joined by `/`, from the start of rank `k` -/
theorem loop_rows : ∀ (rows : List (List Cell)) (row : List Cell) (k : Nat) (done : List Cell),
    (∀ r ∈ row :: rows, r.length = 8) → k + rows.length = 7 → done.length = 8 * k →
    parseCellsLoop (joinSep 47 (encRow 0 row) (rows.map (encRow 0))) 0 k done.length (tabOf done)
      = .ok (8, 7, 64, tabOf (done ++ (row :: rows).flatten))
  | [], row, k, done, hlen, hk, hd => by
    have h8 := hlen row (by simp)
    have h := loop_encRow row 0 0 k done [] (by omega) (by omega)
    have hk : k = 7 := by simpa using hk
    subst hk
    simpa [joinSep, parseCellsLoop, hd, h8] using h
  | row' :: rows, row, k, done, hlen, hk, hd => by
    have h8 := hlen row (by simp)
    simp only [List.length_cons] at hk
    have h := loop_encRow row 0 0 k done (47 :: joinSep 47 (encRow 0 row') (rows.map (encRow 0))) (by omega) (by omega)
    simp only [List.replicate_zero, List.append_nil, Nat.add_zero, Nat.zero_add, h8] at h
    rw [List.map_cons, joinSep, h, loop_slash _ k _ _ (by omega),
      loop_rows rows row' (k + 1) (done ++ row) (fun r hr => hlen r (by simp [hr])) (by omega) (by simp; omega)]
    simp

/-- **board field round trip**: run-length encoding of empty squares and `/` separators are read back exactly -/
theorem cells_roundtrip (cells : Tab 64 Cell) : parseCells (fmtCells cells) = .ok cells := by
  have h := loop_rows (([1, 2, 3, 4, 5, 6, 7] : List (Fin 8)).map (rankCells cells)) (rankCells cells 0)
    0 [] (by simp [rankCells]) rfl rfl
  have hc : tabOf ([] ++ (rankCells cells 0 :: ([1, 2, 3, 4, 5, 6, 7] : List (Fin 8)).map (rankCells cells)).flatten)
      = cells := Tab.ext fun s => by
    rw [List.nil_append, ← List.map_cons, ← finRange8, rankCells_flatten]
    simp [tabOf]
  have h0 : tabOf [] = Tab.fill Cell.empty := Tab.ext fun s => by simp [tabOf]
  rw [hc, h0, List.length_nil] at h
  rw [fmtCells_join, parseCells, h]
  simp

theorem fmtCells_clean (cells : Tab 64 Cell) : Clean (fmtCells cells) := by
  rw [fmtCells_join]
  exact forall_mem_joinSep (by omega) _ _ fun x hx b hb =>
    let ⟨h1, h2, _⟩ := fmtCells_pieces_plain cells x hx b hb
    ⟨h1, h2⟩

theorem color_clean (c : Color) : Clean [colorByte c] := by
  unfold Clean; cases c <;> decide
theorem rights_clean : ∀ r : Rights, Clean (fmtRights r) := by
  unfold Clean; decide
theorem coord_clean : ∀ p : Sq, Clean (fmtCoord p) := by
  unfold Clean; decide

theorem fmtCoord_ne_dash (q : Sq) : fmtCoord q ≠ [45] := by simp [fmtCoord]

/-- text of the en-passant field: the *destination* square of the capture (behind the pawn), or `-` -/
def epText (r : RawBoard) : Bytes :=
  match r.epDest with
  | some p => fmtCoord p
  | none => [45]

theorem epText_clean (r : RawBoard) : Clean (epText r) := by
  unfold epText
  split
  · exact coord_clean _
  · unfold Clean; decide

/-- the en-passant field round trip; needs the stored pawn square to be on the rank the parser reconstructs -/
theorem ep_roundtrip (r : RawBoard) (hep : ∀ p, r.ep = some p → p.rank = epSrcRank r.side) :
    parseEpSource (epText r) r.side = .ok r.ep := by
  unfold epText RawBoard.epDest
  cases hr : r.ep with
  | none => simp [parseEpSource]
  | some p =>
    simp only [parseEpSource, fmtCoord_ne_dash, if_false, C12.coord_reparse, Sq.rank_mk, Sq.file_mk, ne_eq, not_true_eq_false]
    rw [← hep p hr, Sq.mk_file_rank]

theorem fmtFen_join (r : RawBoard) :
    fmtFen r = joinSep 32 (fmtCells r.cells)
      [[colorByte r.side], fmtRights r.castling, epText r, fmtNat r.mc, fmtNat r.mn] := by
  unfold fmtFen epText
  cases r.epDest <;> simp [joinSep, List.append_assoc]

theorem fields_clean (r : RawBoard) :
    ∀ x ∈ [fmtCells r.cells, [colorByte r.side], fmtRights r.castling, epText r, fmtNat r.mc, fmtNat r.mn], Clean x := by
  simp [fmtCells_clean, color_clean, rights_clean, epText_clean, fmtNat_clean]

theorem fmtFen_splitOn (r : RawBoard) :
    Spec.splitOn 32 (fmtFen r)
      = [fmtCells r.cells, [colorByte r.side], fmtRights r.castling, epText r, fmtNat r.mc, fmtNat r.mn] := by
  rw [fmtFen_join]
  exact splitOn_join 32 _ _ fun x hx => (fields_clean r x hx).no_space

theorem fmtFen_split (r : RawBoard) :
    splitSpaces (fmtFen r)
      = [fmtCells r.cells, [colorByte r.side], fmtRights r.castling, epText r, fmtNat r.mc, fmtNat r.mn] := by
  rw [splitSpaces_eq_splitOn, fmtFen_splitOn]

theorem fmtFen_ascii (r : RawBoard) : isAscii (fmtFen r) = true := by
  rw [fmtFen_join, isAscii_iff]
  exact forall_mem_joinSep (by omega) _ _ fun x hx b hb => (fields_clean r x hx b hb).1

/-- **format then parse is the identity** on raw boards, all six fields.
* `hep`: the FEN text carries only the *file* of the en-passant mark (it prints the capture destination
  `Sq.mk p.file (epDstRank side)`); the parser rebuilds the pawn square as `Sq.mk file (epSrcRank side)`. A mark stored
  on any other rank is therefore read back moved to `epSrcRank side` (see the counterexample below).
* `hmc`, `hmn`: the model's counters are `Nat`; `u16::from_str` rejects anything above 65535 (`moveCounter` /
  `moveNumber` error), and the Rust fields are `u16` in the first place. -/
theorem fen_roundtrip (r : RawBoard) (hep : EpRankOk r) (hmc : r.mc ≤ 65535) (hmn : r.mn ≤ 65535) :
    parseFen (fmtFen r) = .ok r := by
  unfold parseFen
  simp only [fmtFen_ascii, fmtFen_split, cells_roundtrip, C12.color_reparse, C12.rights_reparse,
    ep_roundtrip r hep, counter_roundtrip _ hmc, counter_roundtrip _ hmn]
  simp

theorem parseFen_wf (s : Bytes) (r : RawBoard) (h : parseFen s = .ok r) : FenWf r := (parseFen_post s).of_ok h

/-- **parse, format, parse is stable**: whatever text the parser accepts, the board it returns is a fixed point of
format-then-parse -/
theorem fen_parse_format_parse (s : Bytes) (r : RawBoard) (h : parseFen s = .ok r) :
    parseFen (fmtFen r) = .ok r :=
  have w := parseFen_wf s r h
  fen_roundtrip r w.ep w.mc w.mn

/-- the hypotheses of `fen_roundtrip` are necessary as well as sufficient -/
theorem fen_roundtrip_iff (r : RawBoard) : parseFen (fmtFen r) = .ok r ↔ FenWf r :=
  ⟨parseFen_wf _ r, fun w => fen_roundtrip r w.ep w.mc w.mn⟩

/-- formatting loses nothing: well-formed raw boards with the same FEN text are equal -/
theorem fmtFen_injective (r r' : RawBoard) (w : FenWf r) (w' : FenWf r') (h : fmtFen r = fmtFen r') : r = r' := by
  have h1 := fen_roundtrip r w.ep w.mc w.mn
  rw [h, fen_roundtrip r' w'.ep w'.mc w'.mn] at h1
  exact (Res.ok.inj h1).symm

/-- two boards with the same board field have the same squares -/
theorem fmtCells_injective (c c' : Tab 64 Cell) (h : fmtCells c = fmtCells c') : c = c' := by
  have h1 := cells_roundtrip c
  rw [h, cells_roundtrip c'] at h1
  exact (Res.ok.inj h1).symm

/-! non-vacuity -/

/-- the initial position round-trips (by the theorem, and by evaluation) -/
example : parseFen (fmtFen C04.initialRaw) = .ok C04.initialRaw :=
  fen_roundtrip _ (by decide) (by decide) (by decide)
example : parseFen (fmtFen C04.initialRaw) = .ok C04.initialRaw := by decide +kernel

/-- the text is the standard one: `rnbqkbnr/pppppppp/8/8/8/8/PPPPPPPP/RNBQKBNR w KQkq - 0 1` -/
example : fmtFen C04.initialRaw
    = "rnbqkbnr/pppppppp/8/8/8/8/PPPPPPPP/RNBQKBNR w KQkq - 0 1".toList.map Char.toNat := by decide +kernel

/-- a position with an en-passant mark (after 1. e4: black to move, pawn on e4 = square 36) -/
example : parseFen (fmtFen { C04.initialRaw with side := .black, ep := some 36 })
    = .ok { C04.initialRaw with side := .black, ep := some 36 } :=
  fen_roundtrip _ (by decide) (by decide) (by decide)

/-- the parser accepts texts the formatter never writes (`+` sign, omitted counters); stability still holds -/
example : ∃ r, parseFen ("8/8/8/8/8/8/8/8 w - - +7".toList.map Char.toNat) = .ok r ∧ r.mc = 7 ∧ r.mn = 1 ∧
    parseFen (fmtFen r) = .ok r := by
  have h : parseFen ("8/8/8/8/8/8/8/8 w - - +7".toList.map Char.toNat) = .ok { RawBoard.empty with mc := 7 } := by
    decide +kernel
  exact ⟨_, h, rfl, rfl, fen_parse_format_parse _ _ h⟩

/-! the hypotheses cannot be dropped -/

/-- a mark on another rank (a8, white to move) is written as `a6` and read back as a5 (square 24) -/
example : parseFen (fmtFen { RawBoard.empty with ep := some 0 }) = .ok { RawBoard.empty with ep := some 24 } := by
  -- only the file of the mark is written: both boards have the same text
  have : fmtFen { RawBoard.empty with ep := some 0 } = fmtFen { RawBoard.empty with ep := some 24 } := rfl
  rw [this]
  exact fen_roundtrip _ (by decide) (by decide) (by decide)

/-- a counter above `u16::MAX` is written in full and rejected by the reader -/
example : parseFen (fmtFen { RawBoard.empty with mc := 65536 }) = .err .moveCounter := by decide +kernel
example : parseFen (fmtFen { RawBoard.empty with mn := 65536 }) = .err .moveNumber := by decide +kernel

/-- C08 for valid positions: a position that passes the validation gate (whose counters fit `u16`, as every counter
the library produces does: `C03.counters_no_wrap`) is read back from its FEN text in all six fields -/
theorem fen_roundtrip_valid (b : Board) (hv : Valid b) (hmc : b.r.mc ≤ 65535) (hmn : b.r.mn ≤ 65535) :
    parseFen (fmtFen b.r) = .ok b.r ∧ parseFenBoard (fmtFen b.r) = .ok b := by
  have hep : EpRankOk b.r := fun p hp => (hv.shape.ep p hp).1
  have h1 := fen_roundtrip b.r hep hmc hmn
  refine ⟨h1, ?_⟩
  unfold parseFenBoard
  rw [h1]
  simp only
  rw [(valid_iff_validate b).mp hv]

end Owl.Props.C08
