/-
C02 (continued): the SAN make-likes (`impl Make for san::Move`, `for San<S>`), proved in Lemmas/SanSound; these are the
theorems the C02 check audits for the SAN paths.
-/
import OwlModel.Lemmas.SanSound

namespace Owl.Props.C02
open Owl Owl.Impl Owl.Lemmas Owl.Props

/-- a SAN value / string is applied only if it denotes a legal move, and then by `make_move_unchecked` -/
theorem make_san_ok (b : Board) (hv : Valid b) :
    (∀ m, C13.MakeLikeOk b (makeSanMove b m)) ∧ (∀ s, C13.MakeLikeOk b (makeSanStr b s)) :=
  ⟨fun m => C09.makeSanMove_ok b hv m, fun s => C09.makeSanStr_ok b hv s⟩

/-- the position a SAN make-like returns is valid again -/
theorem make_san_valid (b : Board) (hv : Valid b) (mv : Move) (b' : Board) :
    (∀ m, makeSanMove b m = .ok (mv, b') → Valid b') ∧ (∀ s, makeSanStr b s = .ok (mv, b') → Valid b') :=
  ⟨fun m h => (C09.makeSan_valid b hv).1 m mv b' h, fun s h => (C09.makeSan_valid b hv).2 s mv b' h⟩

end Owl.Props.C02
