/-
C08 (continued): the independent grammar-style reader `Spec.Fen.read` interprets the text `fmtFen` writes as the same
position. Proved against the description of the text in Lemmas/FenText, as the parser's round trip in Props/C08 is.
-/
import OwlModel.Props.C08
namespace Owl.Props.C08
open Owl Owl.Impl Owl.Lemmas Owl.Props

theorem manOfLetter_cellByte : ∀ c : Cell, Spec.manOfLetter (cellByte c) = absCell c := by decide

theorem readRank_letter (c : Cell) (hc : ¬ c.isFree = true) (rest : Bytes) (pd : Bool) :
    Spec.readRank (cellByte c :: rest) pd = (Spec.readRank rest false).map fun l => absCell c :: l := by
  obtain ⟨_, _, _, h1⟩ := cellByte_plain c
  have hs : (absCell c).isSome = true := by
    rw [isSome_absCell]
    exact decide_eq_true fun e => hc (by rw [e]; rfl)
  rw [Spec.readRank]
  simp only [h1, if_false, manOfLetter_cellByte]
  cases hm : absCell c with
  | none => rw [hm] at hs; cases hs
  | some m => rfl

theorem readRank_digit (e : Nat) (h1 : 1 ≤ e) (h8 : e ≤ 8) (rest : Bytes) :
    Spec.readRank ((48 + e) :: rest) false
      = (Spec.readRank rest true).map fun l => List.replicate e none ++ l := by
  have hd : 49 ≤ 48 + e ∧ 48 + e ≤ 56 := by omega
  have he : 48 + e - 48 = e := by omega
  rw [Spec.readRank]
  simp only [hd, and_self, if_true, he]
  rfl

theorem readRank_flush_nil (e : Nat) (h8 : e ≤ 8) :
    Spec.readRank (flushDigit e) false = some (List.replicate e none) := by
  by_cases he : e = 0
  · subst he; simp [flushDigit_zero, Spec.readRank]
  · rw [flushDigit_pos he, readRank_digit e (by omega) h8]
    simp [Spec.readRank]

/-- **rank reader on the rank writer**: run lengths 1..8, never two digits in a row, letters read back -/
theorem readRank_enc : ∀ (cs : List Cell) (e : Nat), e + cs.length ≤ 8 →
    Spec.readRank (encRow e cs) false = some (List.replicate e none ++ cs.map absCell)
  | [], e, h => by
    simp only [encRow, List.map_nil, List.append_nil]
    exact readRank_flush_nil e (by simpa using h)
  | c :: cs, e, h => by
    have hl : (c :: cs).length = cs.length + 1 := rfl
    rw [hl] at h
    by_cases hfree : c.isFree = true
    · rw [encRow_free hfree, readRank_enc cs (e + 1) (by omega), List.map_cons, isFree_eq c hfree, absCell_empty,
        List.replicate_succ']
      simp
    · rw [encRow_occ hfree]
      have ih := readRank_enc cs 0 (by omega)
      by_cases he : e = 0
      · subst he
        rw [flushDigit_zero, List.nil_append, readRank_letter c hfree, ih]
        simp
      · rw [flushDigit_pos he, List.singleton_append, readRank_digit e (by omega) (by omega),
          readRank_letter c hfree, ih]
        simp

theorem fmtCells_splitOn (cells : Tab 64 Cell) :
    Spec.splitOn 47 (fmtCells cells) = (List.finRange 8).map fun r => encRow 0 (rankCells cells r) := by
  rw [fmtCells_join, finRange8]
  refine (splitOn_join 47 _ _ ?_).trans (by simp)
  intro x hx hm
  exact (fmtCells_pieces_plain cells x hx 47 hm).2.2 rfl

theorem mapM_map_some {α β γ : Type} (a : α → β) (f : β → Option γ) (g : α → γ) : ∀ (l : List α),
    (∀ x ∈ l, f (a x) = some (g x)) → (l.map a).mapM f = some (l.map g)
  | [], _ => rfl
  | x :: t, h => by
    have hx := h x (by simp)
    have ht := mapM_map_some a f g t (fun y hy => h y (by simp [hy]))
    simp [List.mapM_cons, hx, ht]

theorem ranks_mapM (cells : Tab 64 Cell) :
    ((List.finRange 8).map fun r => encRow 0 (rankCells cells r)).mapM (fun r => Spec.readRank r false)
      = some ((List.finRange 8).map fun r => (rankCells cells r).map absCell) :=
  mapM_map_some _ _ _ _ fun rank _ => by
    rw [readRank_enc _ 0 (by simp [rankCells_length])]
    rfl

theorem rows_getD (cells : Tab 64 Cell) (i : Fin 64) :
    ((List.finRange 8).map fun r => (rankCells cells r).map absCell).flatten.getD i.val none
      = absCell (cells.get i) := by
  have : ((List.finRange 8).map fun r => (rankCells cells r).map absCell)
      = ((List.finRange 8).map (rankCells cells)).map (List.map absCell) := by simp
  rw [this, ← List.map_flatten, rankCells_flatten]
  simp [List.getD_eq_getElem?_getD]

theorem readRights_fmtRights : ∀ c : Rights, Spec.readRights (fmtRights c) = some (absRights c) := by
  decide

theorem side_field (c : Color) :
    (if [colorByte c] = [119] then some Color.white else if [colorByte c] = [98] then some Color.black else none)
      = some c := by
  cases c <;> decide

theorem readDecimal_fmtNat (n : Nat) (h : n ≤ 65535) : Spec.readDecimal (fmtNat n) = some n := by
  by_cases h0 : n = 0
  · subst h0; decide
  · obtain ⟨-, h2, h3⟩ := fmtNat_spec n
    obtain ⟨hval, hhead⟩ := h3 h
    have hall : (fmtNat n).all (fun b => decide (48 ≤ b) && decide (b ≤ 57)) = true := List.all_eq_true.mpr h2
    have hhead := hhead h0
    unfold Spec.readDecimal
    split
    · rename_i heq; rw [heq] at hval; exact absurd hval.symm h0
    · rename_i heq; rw [heq] at hhead; exact absurd rfl hhead
    · rename_i heq; rw [heq] at hhead; exact absurd rfl hhead
    · simp only [hall, if_true]
      rw [show List.foldl _ 0 (fmtNat n) = n from hval, if_pos h]

theorem readSquare_fmtCoord : ∀ q : Sq, Spec.readSquare (fmtCoord q) = some q := by
  decide +kernel

/-- the reader's en-passant rule on the written target square: the target is behind the pawn, one step back finds it -/
theorem ep_target_facts : ∀ (side : Color) (p : Sq), p.rank = epSrcRank side →
    Spec.rank (Sq.mk p.file (epDstRank side)) = (match side with | .white => 2 | .black => 5) ∧
    Spec.step (Sq.mk p.file (epDstRank side)) (0, -(Spec.forward side)) = some p := by
  intro side
  cases side <;> decide +kernel

/-- the en-passant field as the independent reader sees it -/
theorem ep_field (r : RawBoard) (hep : EpRankOk r) :
    (if epText r = [45] then some none
      else match Spec.readSquare (epText r) with
        | none => none
        | some t =>
          if Spec.rank t = (match r.side with | .white => 2 | .black => 5) then
            (Spec.step t (0, -(Spec.forward r.side))).map some
          else none) = some r.ep := by
  unfold epText RawBoard.epDest
  cases hr : r.ep with
  | none => simp
  | some p =>
    obtain ⟨h1, h2⟩ := ep_target_facts r.side p (hep p hr)
    simp only [fmtCoord_ne_dash, if_false, readSquare_fmtCoord, h1, if_true, h2]
    rfl

theorem fen_independent_reader (r : RawBoard) (hep : EpRankOk r) (hmc : r.mc ≤ 65535) (hmn : r.mn ≤ 65535) :
    Spec.Fen.read (fmtFen r) = some (abs r) := by
  unfold Spec.Fen.read
  have hlen : ((List.finRange 8).map fun r' => encRow 0 (rankCells r.cells r')).length = 8 := by simp
  have hall : (((List.finRange 8).map fun r' => (rankCells r.cells r').map absCell).all
      fun row => decide (row.length = 8)) = true := by
    simp [rankCells_length]
  simp only [fmtFen_splitOn, fmtCells_splitOn, ranks_mapM, hlen, hall, side_field, readRights_fmtRights,
    readDecimal_fmtNat _ hmc, readDecimal_fmtNat _ hmn, rows_getD]
  simp only [ne_eq, not_true_eq_false, if_false, Bool.not_true, Bool.false_eq_true]
  -- `erw`: the reader's `match` and the one in the statement of `ep_field` are separately compiled matchers
  erw [ep_field r hep]
  exact congrArg some (pos_ext (abs_board r).symm (abs_side r).symm (abs_rights r).symm
    (abs_ep r).symm (abs_half r).symm (abs_full r).symm)

/-- C08, last clause, for valid positions: the FEN text of a position that passes the validation gate (counters in
`u16` range, as every counter the library produces is) is a canonical six-field record which the independent reader
interprets as the same position -/
theorem fen_independent_reader_valid (b : Board) (hv : Valid b) (hmc : b.r.mc ≤ 65535) (hmn : b.r.mn ≤ 65535) :
    Spec.Fen.read (fmtFen b.r) = some (abs b.r) :=
  fen_independent_reader b.r (fun p hp => (hv.shape.ep p hp).1) hmc hmn

/-- both readers agree on the written text: the implementation's parser result, abstracted, is what the independent
reader returns -/
theorem fen_readers_agree (r : RawBoard) (hep : EpRankOk r) (hmc : r.mc ≤ 65535) (hmn : r.mn ≤ 65535) :
    ∃ r', parseFen (fmtFen r) = .ok r' ∧ Spec.Fen.read (fmtFen r) = some (abs r') :=
  ⟨r, fen_roundtrip r hep hmc hmn, fen_independent_reader r hep hmc hmn⟩

/-! non-vacuity -/

example : Spec.Fen.read (fmtFen C04.initialRaw) = some (abs C04.initialRaw) :=
  fen_independent_reader _ (by decide) (by decide) (by decide)
example : Spec.Fen.read (fmtFen C04.initialRaw) = some (abs C04.initialRaw) := by decide +kernel

/-- en-passant marks for either side to move (after 1. e4: pawn on e4 = square 36; a black pawn on e5 = square 28) -/
example : Spec.Fen.read (fmtFen { C04.initialRaw with side := .black, ep := some 36 })
    = some (abs { C04.initialRaw with side := .black, ep := some 36 }) :=
  fen_independent_reader _ (by decide) (by decide) (by decide)
example : Spec.Fen.read (fmtFen { C04.initialRaw with side := .white, ep := some 28 })
    = some (abs { C04.initialRaw with side := .white, ep := some 28 }) := by decide +kernel

/-- move number 0 and half-move clock 0 are written `0` and read back as 0 by both readers -/
example : Spec.Fen.read (fmtFen { RawBoard.empty with mc := 0, mn := 0 })
    = some (abs { RawBoard.empty with mc := 0, mn := 0 }) :=
  fen_independent_reader _ (by decide) (by decide) (by decide)

/-! the hypotheses cannot be dropped -/

/-- a mark on another rank (a8, white to move) is written as target `a6`; the independent reader finds the pawn on a5 -/
example : Spec.Fen.read (fmtFen { RawBoard.empty with ep := some 0 })
    = some (abs { RawBoard.empty with ep := some 24 }) := by
  -- only the file of the mark is written: both boards have the same text
  have : fmtFen { RawBoard.empty with ep := some 0 } = fmtFen { RawBoard.empty with ep := some 24 } := rfl
  rw [this]
  exact fen_independent_reader _ (by decide) (by decide) (by decide)
example : Spec.Fen.read (fmtFen { RawBoard.empty with ep := some 0 })
    ≠ some (abs { RawBoard.empty with ep := some 0 }) := by
  have : fmtFen { RawBoard.empty with ep := some 0 } = fmtFen { RawBoard.empty with ep := some 24 } := rfl
  rw [this, fen_independent_reader _ (by decide) (by decide) (by decide)]
  intro h
  injection h with h
  have := congrArg Spec.Pos.ep h
  simp at this

/-- counters above 65535 are written in full and rejected by the independent reader too -/
example : Spec.Fen.read (fmtFen { RawBoard.empty with mc := 65536 }) = none := by decide +kernel
example : Spec.Fen.read (fmtFen { RawBoard.empty with mn := 65536 }) = none := by decide +kernel

end Owl.Props.C08
