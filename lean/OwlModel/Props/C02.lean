/-
C02  The safe API yields only valid positions; a move is accepted iff it is legal.
`Valid b` (Lemmas/Valid) is "b passes the validation gate unchanged" (`valid_iff_validate`).
Proved here: positions from FEN / raw conversion are valid; `impl Make for Move`, `for uci::Move` and `for Uci<S>`
accept exactly the semilegal moves whose application does not leave the mover's king attacked (stated both through
`is_legal_unchecked`, whose exactness is Lemmas/Checker `isLegal_nil`, and in rule terms through `Spec.apply` /
`Spec.inCheck`), return the position `make_move_unchecked` produces, which is valid again and re-validates to itself;
no panic on any input; on refusal the primitive's undo restores the position.
The SAN make-likes are in Props/C02_san (from Lemmas/SanSound); "semilegal" is identified with the rules' pseudo-legal
set in Props/C06.
-/
import OwlModel.Lemmas.Valid
import OwlModel.Props.C03
import OwlModel.Props.C10

namespace Owl.Props.C02
open Owl Owl.Impl Owl.Lemmas Owl.Props

/-- the apply-and-test legality decision (`TryUnchecked`) agrees with `is_legal_unchecked`, and never panics -/
theorem tryUnchecked_eq (b : Board) (mv : Move) (hv : Valid b) (hwf : mv.isWellFormed = true)
    (hsl : isSemilegal b mv = true) :
    ∃ ok : Bool, isLegalUnchecked? b mv = some ok ∧
      tryUnchecked b mv = (if ok then .ok (makeMove b mv).1 else .err .notLegal) := by
  obtain ⟨k', hk', hleg, _⟩ := legal_valid b mv hv hwf hsl
  refine ⟨_, hleg, ?_⟩
  unfold tryUnchecked isOpponentKingAttacked?
  simp only [make_side, Color.inv_inv, hk']
  cases isCellAttacked (makeMove b mv).1 k' b.r.side.inv <;> rfl

/-- `is_legal_unchecked` in rule terms: the mover's king is not in check in the position after the move -/
theorem legal_iff_safe (b : Board) (mv : Move) (hv : Valid b) (hwf : mv.isWellFormed = true)
    (hsl : isSemilegal b mv = true) :
    isLegalUnchecked? b mv = some (!Spec.inCheck (abs (makeMove b mv).1.r) b.r.side) := by
  obtain ⟨k', hk', hleg, _⟩ := legal_valid b mv hv hwf hsl
  rw [inCheck_of_kingPos _ (make_shape b mv hv.shape hwf hsl).cons _ k' hk', hleg]

/-- C02: `impl Make for Move` accepts exactly the semilegal moves that `is_legal_unchecked` accepts, returns the
position `make_move_unchecked` produces, and never panics -/
theorem make_checked_iff (b : Board) (mv : Move) (hv : Valid b) (hwf : mv.isWellFormed = true) (b' : Board) :
    makeMoveChecked b mv = .ok b' ↔
      (isSemilegal b mv = true ∧ isLegalUnchecked? b mv = some true ∧ b' = (makeMove b mv).1) := by
  unfold makeMoveChecked
  cases hsl : isSemilegal b mv
  · simp
  · obtain ⟨ok, h1, h2⟩ := tryUnchecked_eq b mv hv hwf hsl
    simp only [Bool.not_true, Bool.false_eq_true, if_false, h1, h2, true_and]
    cases ok
    · simp
    · simp only [if_true, Res.ok.injEq, true_and]
      exact ⟨fun h => h.symm, fun h => h.symm⟩

theorem make_checked_no_trap (b : Board) (mv : Move) (hv : Valid b) (hwf : mv.isWellFormed = true) (w : String) :
    makeMoveChecked b mv ≠ .trap w := by
  unfold makeMoveChecked
  cases hsl : isSemilegal b mv
  · simp
  · obtain ⟨ok, _, h2⟩ := tryUnchecked_eq b mv hv hwf hsl
    simp only [Bool.not_true, Bool.false_eq_true, if_false, h2]
    cases ok <;> simp

/-- C02: in rule terms — a well-formed move is accepted iff it is semilegal and does not leave the mover's king
attacked in `Spec.apply` of the position -/
theorem make_checked_iff_rules (b : Board) (mv : Move) (hv : Valid b) (hwf : mv.isWellFormed = true) :
    (∃ b', makeMoveChecked b mv = .ok b') ↔
      (isSemilegal b mv = true ∧ ∃ sm, absMove mv = some sm ∧
        Spec.inCheck (Spec.apply (abs b.r) sm) b.r.side = false) := by
  constructor
  · intro ⟨b', h⟩
    obtain ⟨hsl, hleg, _⟩ := (make_checked_iff b mv hv hwf b').mp h
    obtain ⟨sm, h1, h2⟩ := Lemmas.make_refines_apply b mv (applyHyp_of_valid b mv hv hwf hsl)
    rw [legal_iff_safe b mv hv hwf hsl, h2] at hleg
    exact ⟨hsl, sm, h1, by simpa using hleg⟩
  · intro ⟨hsl, sm, h1, h3⟩
    refine ⟨_, (make_checked_iff b mv hv hwf _).mpr ⟨hsl, ?_, rfl⟩⟩
    obtain ⟨sm', h1', h2⟩ := Lemmas.make_refines_apply b mv (applyHyp_of_valid b mv hv hwf hsl)
    rw [h1] at h1'; cases h1'
    rw [legal_iff_safe b mv hv hwf hsl, h2, h3]
    rfl

/-- C02: the result of an accepted move is valid: re-validating its raw contents succeeds and reproduces it
identically, it is the rules' successor position, and the side that has just moved is not in check -/
theorem make_checked_valid (b : Board) (mv : Move) (hv : Valid b) (hwf : mv.isWellFormed = true) (b' : Board)
    (h : makeMoveChecked b mv = .ok b') :
    Valid b' ∧ validate b'.r = .ok b' ∧ Spec.inCheck (abs b'.r) b.r.side = false
      ∧ ∃ sm, absMove mv = some sm ∧ abs b'.r = Spec.apply (abs b.r) sm := by
  obtain ⟨hsl, hleg, hb'⟩ := (make_checked_iff b mv hv hwf b').mp h
  subst hb'
  have hv' := valid_make b mv hv hwf hsl hleg
  rw [legal_iff_safe b mv hv hwf hsl] at hleg
  exact ⟨hv', (valid_iff_validate _).mp hv', by simpa using hleg,
    Lemmas.make_refines_apply b mv (applyHyp_of_valid b mv hv hwf hsl)⟩

/-- C02: positions from the two entry points are valid -/
theorem validate_valid (raw : RawBoard) (b : Board) (h : validate raw = .ok b) : Valid b :=
  C11.valid_of_validate raw b h

theorem fen_board_valid (s : Bytes) (b : Board) (h : parseFenBoard s = .ok b) : Valid b := by
  unfold parseFenBoard at h
  split at h
  · cases h
  · cases h
  · rename_i raw _
    split at h
    · cases h
    · cases h
    · rename_i b0 hv
      cases h
      exact validate_valid raw b hv

theorem uciIntoMove_wf (b : Board) (u : UciMove) (mv : Move) (h : uciIntoMove u b = some mv) :
    mv.isWellFormed = true := by
  cases u with
  | null => cases h; decide
  | move src dst p =>
    unfold uciIntoMove at h
    simp only at h
    split at h
    · cases h
    · exact (new?_some _ _ _ _ _ h).2

/-- C02: a UCI move value is applied through the same checked path -/
theorem make_uci_valid (b : Board) (u : UciMove) (hv : Valid b) (mv : Move) (b' : Board)
    (h : makeUciMove b u = .ok (mv, b')) :
    uciIntoMove u b = some mv ∧ makeMoveChecked b mv = .ok b' ∧ Valid b' := by
  unfold makeUciMove at h
  cases hu : uciIntoMove u b with
  | none => rw [hu] at h; cases h
  | some m =>
    rw [hu] at h
    simp only at h
    cases hm : makeMoveChecked b m with
    | ok b2 =>
      rw [hm] at h
      simp only [Res.ok.injEq, Prod.mk.injEq] at h
      obtain ⟨e1, e2⟩ := h
      subst e1 e2
      exact ⟨rfl, hm, (make_checked_valid b m hv (uciIntoMove_wf b u m hu) b2 hm).1⟩
    | err e => rw [hm] at h; cases h
    | trap w => rw [hm] at h; cases h

/-- whatever the semilegal-checking reader returns is well formed and semilegal -/
theorem moveFromUciSemilegal_ok (b : Board) (s : Bytes) (m : Move) (h : moveFromUciSemilegal s b = .ok m) :
    m.isWellFormed = true ∧ isSemilegal b m = true := by
  unfold moveFromUciSemilegal moveFromUci at h
  cases hp : parseUci s with
  | trap w => rw [hp] at h; cases h
  | err e => rw [hp] at h; cases h
  | ok u =>
    rw [hp] at h
    simp only at h
    cases hu : uciIntoMove u b with
    | none => rw [hu] at h; cases h
    | some m' =>
      rw [hu] at h
      simp only at h
      split at h
      · rename_i hsl
        cases h
        exact ⟨uciIntoMove_wf b u _ hu, hsl⟩
      · cases h

/-- `impl Make for Uci<S>` once the reader has returned `m`: the apply-and-test decision -/
theorem makeUciStr_of_read (b : Board) (hv : Valid b) (s : Bytes) (m : Move) (h : moveFromUciSemilegal s b = .ok m) :
    ∃ ok, isLegalUnchecked? b m = some ok ∧ m.isWellFormed = true ∧ isSemilegal b m = true ∧
      makeUciStr b s = if ok then .ok (m, (makeMove b m).1) else .err (.uci (.validate .notLegal)) := by
  obtain ⟨hwf, hsl⟩ := moveFromUciSemilegal_ok b s m h
  obtain ⟨ok, h1, h2⟩ := tryUnchecked_eq b m hv hwf hsl
  refine ⟨ok, h1, hwf, hsl, ?_⟩
  unfold makeUciStr
  rw [h]
  simp only
  rw [h2]
  cases ok <;> rfl

/-- C02: a UCI string is accepted iff it spells a legal move of the position, which is then the move applied -/
theorem make_ucistr_iff (b : Board) (hv : Valid b) (s : Bytes) (src dst : Sq) (p : Option Piece)
    (hparse : parseUci s = .ok (.move src dst p)) (mv : Move) (b' : Board) :
    makeUciStr b s = .ok (mv, b') ↔
      (mv.isWellFormed = true ∧ isSemilegal b mv = true ∧ isLegalUnchecked? b mv = some true
        ∧ uciOfMove mv = .move src dst p ∧ b' = (makeMove b mv).1) := by
  constructor
  · intro h
    cases hm : moveFromUciSemilegal s b with
    | trap w => unfold makeUciStr at h; rw [hm] at h; cases h
    | err e => unfold makeUciStr at h; rw [hm] at h; cases h
    | ok m =>
      obtain ⟨ok, h1, hwf, hsl, h2⟩ := makeUciStr_of_read b hv s m hm
      rw [h2] at h
      cases ok <;> cases h
      exact ⟨hwf, hsl, h1, ((C10.uci_semilegal_iff b hv.shape s src dst p hparse mv).mp hm).2.2, rfl⟩
  · intro ⟨hwf, hsl, hleg, hu, hb'⟩
    obtain ⟨ok, h1, _, _, h2⟩ := makeUciStr_of_read b hv s mv
      ((C10.uci_semilegal_iff b hv.shape s src dst p hparse mv).mpr ⟨hwf, hsl, hu⟩)
    rw [hleg] at h1
    cases h1
    rw [h2, hb']
    rfl

/-- C02: on a refusal the primitive's own undo restores the position exactly (what `TryUnchecked` does before it
returns `NotLegal`) -/
theorem refusal_restores (b : Board) (mv : Move) (hv : Valid b) (hwf : mv.isWellFormed = true)
    (hsl : isSemilegal b mv = true) : unmakeMove (makeMove b mv).1 mv (makeMove b mv).2 = b :=
  C04.undo_restores b mv hv.shape.cons (makeOk_of_semilegal b mv hv.shape hwf hsl)

/-! non-vacuity: the initial position is valid, 1. e4 is accepted, and the result is valid -/
example : Valid (buildBoard C04.initialRaw) := C04.initial_valid
example : makeMoveChecked (buildBoard C04.initialRaw) ⟨.double, 1, 52, 36⟩
    = .ok (makeMove (buildBoard C04.initialRaw) ⟨.double, 1, 52, 36⟩).1 := by decide +kernel

end Owl.Props.C02
