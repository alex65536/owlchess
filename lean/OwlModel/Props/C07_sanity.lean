/-
C07 (sanity of the trusted statements): the rules layer's `Spec.outcome` classifies well-known positions as the Laws of
Chess do — kernel-checked tests of the specification the C07 theorems are stated against.
-/
import OwlModel.Lemmas.SpecEval

namespace Owl.Props.C07
open Owl Owl.Spec

/-- fool's mate: White is checkmated: `rnb1kbnr/pppp1ppp/8/4p3/6Pq/5P2/PPPPP2P/RNBQKBNR w KQkq - 1 3` -/
def ofen_fools_mate : List Nat := [114, 110, 98, 49, 107, 98, 110, 114, 47, 112, 112, 112, 112, 49, 112, 112, 112, 47, 56, 47, 52, 112, 51, 47, 54, 80, 113, 47, 53, 80, 50, 47, 80, 80, 80, 80, 80, 50, 80, 47, 82, 78, 66, 81, 75, 66, 78, 82, 32, 119, 32, 75, 81, 107, 113, 32, 45, 32, 49, 32, 51]
theorem spec_outcome_fools_mate : (Fen.read ofen_fools_mate).map outcome = some (some (.checkmate .black)) := by
  rw [outcome_eq]; decide +kernel

/-- scholar's mate: Black is checkmated: `r1bqkb1r/pppp1Qpp/2n2n2/4p3/2B1P3/8/PPPP1PPP/RNB1K1NR b KQkq - 0 4` -/
def ofen_scholars_mate : List Nat := [114, 49, 98, 113, 107, 98, 49, 114, 47, 112, 112, 112, 112, 49, 81, 112, 112, 47, 50, 110, 50, 110, 50, 47, 52, 112, 51, 47, 50, 66, 49, 80, 51, 47, 56, 47, 80, 80, 80, 80, 49, 80, 80, 80, 47, 82, 78, 66, 49, 75, 49, 78, 82, 32, 98, 32, 75, 81, 107, 113, 32, 45, 32, 48, 32, 52]
theorem spec_outcome_scholars_mate : (Fen.read ofen_scholars_mate).map outcome = some (some (.checkmate .white)) := by
  rw [outcome_eq]; decide +kernel

/-- the textbook queen stalemate: `7k/5Q2/6K1/8/8/8/8/8 b - - 0 1` -/
def ofen_stalemate : List Nat := [55, 107, 47, 53, 81, 50, 47, 54, 75, 49, 47, 56, 47, 56, 47, 56, 47, 56, 47, 56, 32, 98, 32, 45, 32, 45, 32, 48, 32, 49]
theorem spec_outcome_stalemate : (Fen.read ofen_stalemate).map outcome = some (some .stalemate) := by
  rw [outcome_eq]; decide +kernel

/-- king against king: `8/8/8/4k3/8/8/8/4K3 w - - 0 1` -/
def ofen_bare_kings : List Nat := [56, 47, 56, 47, 56, 47, 52, 107, 51, 47, 56, 47, 56, 47, 56, 47, 52, 75, 51, 32, 119, 32, 45, 32, 45, 32, 48, 32, 49]
theorem spec_outcome_bare_kings : (Fen.read ofen_bare_kings).map outcome = some (some .insufficient) := by
  rw [outcome_eq]; decide +kernel

/-- king and knight against king: `8/8/8/4k3/8/2N5/8/4K3 w - - 0 1` -/
def ofen_knight : List Nat := [56, 47, 56, 47, 56, 47, 52, 107, 51, 47, 56, 47, 50, 78, 53, 47, 56, 47, 52, 75, 51, 32, 119, 32, 45, 32, 45, 32, 48, 32, 49]
theorem spec_outcome_knight : (Fen.read ofen_knight).map outcome = some (some .insufficient) := by
  rw [outcome_eq]; decide +kernel

/-- bishops on squares of one colour only: `8/8/8/4k3/8/2B1b3/8/4K3 w - - 0 1` -/
def ofen_bishops_same : List Nat := [56, 47, 56, 47, 56, 47, 52, 107, 51, 47, 56, 47, 50, 66, 49, 98, 51, 47, 56, 47, 52, 75, 51, 32, 119, 32, 45, 32, 45, 32, 48, 32, 49]
theorem spec_outcome_bishops_same : (Fen.read ofen_bishops_same).map outcome = some (some .insufficient) := by
  rw [outcome_eq]; decide +kernel

/-- bishops on both square colours: play goes on: `8/8/8/4k3/8/2B2b2/8/4K3 w - - 0 1` -/
def ofen_bishops_opposite : List Nat := [56, 47, 56, 47, 56, 47, 52, 107, 51, 47, 56, 47, 50, 66, 50, 98, 50, 47, 56, 47, 52, 75, 51, 32, 119, 32, 45, 32, 45, 32, 48, 32, 49]
theorem spec_outcome_bishops_opposite : (Fen.read ofen_bishops_opposite).map outcome = some (none) := by
  rw [outcome_eq]; decide +kernel

/-- two knights: mate is possible, play goes on: `8/8/8/4k3/8/2NN4/8/4K3 w - - 0 1` -/
def ofen_two_knights : List Nat := [56, 47, 56, 47, 56, 47, 52, 107, 51, 47, 56, 47, 50, 78, 78, 52, 47, 56, 47, 52, 75, 51, 32, 119, 32, 45, 32, 45, 32, 48, 32, 49]
theorem spec_outcome_two_knights : (Fen.read ofen_two_knights).map outcome = some (none) := by
  rw [outcome_eq]; decide +kernel

/-- clock 100: claimable fifty-move draw: `8/8/8/4k3/8/2R5/8/4K3 w - - 100 80` -/
def ofen_fifty : List Nat := [56, 47, 56, 47, 56, 47, 52, 107, 51, 47, 56, 47, 50, 82, 53, 47, 56, 47, 52, 75, 51, 32, 119, 32, 45, 32, 45, 32, 49, 48, 48, 32, 56, 48]
theorem spec_outcome_fifty : (Fen.read ofen_fifty).map outcome = some (some .moves50) := by
  rw [outcome_eq]; decide +kernel

/-- clock 150: mandatory seventy-five-move draw: `8/8/8/4k3/8/2R5/8/4K3 w - - 150 120` -/
def ofen_seventyfive : List Nat := [56, 47, 56, 47, 56, 47, 52, 107, 51, 47, 56, 47, 50, 82, 53, 47, 56, 47, 52, 75, 51, 32, 119, 32, 45, 32, 45, 32, 49, 53, 48, 32, 49, 50, 48]
theorem spec_outcome_seventyfive : (Fen.read ofen_seventyfive).map outcome = some (some .moves75) := by
  rw [outcome_eq]; decide +kernel

/-- the initial position: `rnbqkbnr/pppppppp/8/8/8/8/PPPPPPPP/RNBQKBNR w KQkq - 0 1` -/
def ofen_initial : List Nat := [114, 110, 98, 113, 107, 98, 110, 114, 47, 112, 112, 112, 112, 112, 112, 112, 112, 47, 56, 47, 56, 47, 56, 47, 56, 47, 80, 80, 80, 80, 80, 80, 80, 80, 47, 82, 78, 66, 81, 75, 66, 78, 82, 32, 119, 32, 75, 81, 107, 113, 32, 45, 32, 48, 32, 49]
theorem spec_outcome_initial : (Fen.read ofen_initial).map outcome = some (none) := by
  rw [outcome_eq]; decide +kernel

end Owl.Props.C07
