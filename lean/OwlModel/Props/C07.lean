/-
C07  The outcome of a position is classified exactly.
`calcOutcome_eq`: on every valid position `Board::calc_outcome` returns exactly `Spec.outcome` of the position —
checkmate (won by the side not to move) iff in check with no legal move, stalemate iff not in check with no legal move,
otherwise insufficient material, then the 150 half-move limit, then the 100 half-move limit, otherwise nothing (that
order is the precedence), and never panics.  `hasLegalMoves_spec`: the early-exit "has a legal move" query is true
exactly when the legal move set (C01) is non-empty; it skips castling, which is sound by `king_step_legal`.
`insufficient_iff`, `calcDrawSimple_eq` (Lemmas/Insufficient): the bitboard material test is the rule "nothing but the
kings, or a single knight, or only bishops all on one square colour"; the light / dark masks are the rule's squares.
-/
import OwlModel.Props.C01
import OwlModel.Lemmas.Insufficient

namespace Owl.Props.C07
open Owl Owl.Impl Owl.Lemmas Owl.Props Owl.Props.C06

/-- the square next to the king's home square towards the given side -/
def stepSq (c : Color) : Side → Sq
  | .king => Sq.mk fileF (castlingRank c)
  | .queen => Sq.mk fileD (castlingRank c)

/-- if the king stands unattacked on its home square next to an empty, unattacked square, stepping there is legal
(why `has_legal_moves` may skip castling) -/
theorem king_step_legal (b : Board) (hv : Valid b) (sd : Side)
    (hk : b.get (Sq.mk fileE (castlingRank b.r.side)) = Cell.mk b.r.side .king)
    (he : b.get (stepSq b.r.side sd) = Cell.empty)
    (h1 : isCellAttacked b (Sq.mk fileE (castlingRank b.r.side)) b.r.side.inv = false)
    (h2 : isCellAttacked b (stepSq b.r.side sd) b.r.side.inv = false) :
    let mv := mkMove b.r.side .simple .king (Sq.mk fileE (castlingRank b.r.side)) (stepSq b.r.side sd)
    mv.isWellFormed = true ∧ isSemilegal b mv = true ∧ isLegalUnchecked? b mv = some true := by
  intro mv
  have hb := hv.shape.cons
  have gk : (kingAttack (Sq.mk fileE (castlingRank b.r.side))).has (stepSq b.r.side sd) = true := by
    cases b.r.side <;> cases sd <;> decide
  have hsl : SL b mv := (sl_piece b .king (by decide) _ _).mpr ⟨hk, gk, by rw [he, empty_color]; simp⟩
  refine ⟨hsl.1, hsl.2, ?_⟩
  rw [legal_unfold b hb mv _ hk fun _ => hv.checks.king_eq hk]
  congr 1
  -- the test: the destination is not attacked once the king has left its square
  unfold Checker.isLegal
  simp only [Pre.isLegalPre, mv, mkMove, if_true]
  rw [isAttacked_set]
  simp only [BitVec.and_allOnes, Bool.not_eq_true']
  cases hatt : (attackSet (fun p => b.piece2 b.r.side.inv p) (stepSq b.r.side sd) b.r.side.inv
      (b.all ^^^ BB.single (Sq.mk fileE (castlingRank b.r.side)))).nonEmpty
  · rfl
  · exfalso
    obtain ⟨s, hs⟩ := (nonEmpty_iff _).mp hatt
    -- a slider that sees the destination only once the king has left attacks the king's own square
    have hEa := no_attacker b _ _ h1 s
    rcases attackSet_new _ _ _ _ _ _ s (fun _ h => h) hs (no_attacker b _ _ h2 s)
      with ⟨hnew, hold, hp⟩ | ⟨hnew, hold, hp⟩
    · rw [attackSet_of_far _ _ _ _ s (.inl ⟨Line.bishop.attack_through _ _ s b.all hnew hold, hp⟩)] at hEa
      cases hEa
    · rw [attackSet_of_far _ _ _ _ s (.inr ⟨Line.rook.attack_through _ _ s b.all hnew hold, hp⟩)] at hEa
      cases hEa

theorem genFor_mem (b : Board) (c : Color) (mv : Move) :
    mv ∈ genForHasLegalMoves b c ↔ mv ∈ genWith b c true true true false := by
  unfold genForHasLegalMoves genWith
  simp only [List.mem_append, Bool.or_self, if_true, Bool.false_eq_true, if_false, List.not_mem_nil, or_false, or_assoc]
  constructor
  · rintro (h | h | h | h | h | h) <;> simp [h]
  · rintro (h | h | h | h | h | h) <;> simp [h]

theorem inClass_noCastle (b : Board) (mv : Move) (h0 : mv.kind ≠ .null) (h1 : mv.kind ≠ .castleK) (h2 : mv.kind ≠ .castleQ) :
    inClass b mv true true true false = true := by
  unfold inClass
  cases hk : mv.kind <;> simp [hk] at h0 h1 h2 ⊢

/-- C07: "has a legal move" is true exactly when the legal move set is non-empty (castling is skipped by the
early-exit generator: when a castling is semilegal the king's first step is a legal move) -/
theorem hasLegalMoves_spec (b : Board) (hv : Valid b) :
    ∃ l, legalGen? .all b = some l ∧ hasLegalMoves? b = some (!l.isEmpty) := by
  obtain ⟨ck, hck, hleg⟩ := default_checker b hv
  unfold legalGen? hasLegalMoves?
  rw [hck]
  refine ⟨_, rfl, ?_⟩
  simp only [Option.map_some, Option.some.injEq]
  have hlegal : ∀ mv, SL b mv → (ck.isLegal mv = true ↔ isLegalUnchecked? b mv = some true) :=
    fun mv hsl => hleg mv hsl.1 hsl.2
  cases hany : (genForHasLegalMoves b b.r.side).any ck.isLegal
  · -- no legal move among the scanned ones: then none at all
    symm
    simp only [Bool.not_eq_false', List.isEmpty_iff, List.filter_eq_nil_iff]
    intro mv hmem hleg
    have hnone : ∀ m ∈ genForHasLegalMoves b b.r.side, ¬ ck.isLegal m = true := List.any_eq_false.mp hany
    obtain ⟨hwf, hsl, _⟩ := (semilegalGen_iff b hv .all mv).mp hmem
    have hknull := (semilegal_base b mv hsl).1
    by_cases hcas : mv.kind = .castleK ∨ mv.kind = .castleQ
    · -- a castling: the king's first step is legal and is scanned
      have key : ∀ sd : Side, mv.kind = castleKind sd → False := by
        intro sd hkind
        obtain ⟨g1, -, g7, g3, g6, g8⟩ := castle_semi b mv hwf hsl sd hkind
        rw [g1] at g3 g7
        have he : b.get (stepSq b.r.side sd) = Cell.empty := by
          cases sd with
          | king => exact ((pass_iff b hv.shape.cons b.r.side).1.mp g6).1
          | queen => exact ((pass_iff b hv.shape.cons b.r.side).2.mp g6).2.2
        obtain ⟨s1, s2, s3⟩ := king_step_legal b hv sd g3 he g7 g8
        have hin : mkMove b.r.side .simple .king (Sq.mk fileE (castlingRank b.r.side)) (stepSq b.r.side sd)
            ∈ genForHasLegalMoves b b.r.side := by
          rw [genFor_mem, mem_genWith_iff b hv]
          exact ⟨⟨s1, s2⟩, inClass_noCastle b _ (by simp [mkMove]) (by simp [mkMove]) (by simp [mkMove])⟩
        exact hnone _ hin ((hlegal _ ⟨s1, s2⟩).mpr s3)
      rcases hcas with h | h
      · exact key .king h
      · exact key .queen h
    · have hin : mv ∈ genForHasLegalMoves b b.r.side := by
        rw [genFor_mem, mem_genWith_iff b hv]
        exact ⟨⟨hwf, hsl⟩, inClass_noCastle b mv hknull (fun e => hcas (Or.inl e)) (fun e => hcas (Or.inr e))⟩
      exact hnone mv hin hleg
  · obtain ⟨m, hm, hl⟩ := List.any_eq_true.mp hany
    rw [genFor_mem, mem_genWith_iff b hv] at hm
    have hmem : m ∈ (semilegalGen .all b).filter ck.isLegal := by
      rw [List.mem_filter, semilegalGen_iff b hv .all]
      exact ⟨⟨hm.1.1, hm.1.2, inClass_all b m hm.1.2⟩, hl⟩
    symm
    simp only [Bool.not_eq_true', List.isEmpty_eq_false_iff_exists_mem]
    exact ⟨m, hmem⟩

theorem isCheck_spec (b : Board) (hv : Valid b) : isCheck? b = some (Spec.inCheck (abs b.r) b.r.side) := by
  obtain ⟨k, hk⟩ := Option.isSome_iff_exists.mp (valid_hasKings b hv b.r.side)
  rw [inCheck_of_kingPos b hv.shape.cons _ k hk]
  unfold isCheck?
  rw [hk]

theorem legal_empty_iff (b : Board) (hv : Valid b) (l : List Move) (hl : legalGen? .all b = some l) :
    l.isEmpty = (Spec.legalMoves (abs b.r)).isEmpty := by
  obtain ⟨l', h1, _, h3⟩ := C01.legalGen_eq_rules b hv
  rw [hl] at h1; cases h1
  obtain ⟨l2, g1, _, g3⟩ := C01.legalGen_spec b hv .all
  rw [hl] at g1; cases g1
  cases hle : l.isEmpty
  · symm
    obtain ⟨mv, hmv⟩ := List.isEmpty_eq_false_iff_exists_mem.mp hle
    obtain ⟨hwf, hsl, _, _⟩ := (g3 mv).mp hmv
    obtain ⟨sm, _, hc, _⟩ := semilegal_abs b hv mv hwf hsl
    apply List.isEmpty_eq_false_iff_exists_mem.mpr
    exact ⟨sm, (h3 sm).mpr (by rw [hc]; exact hmv)⟩
  · symm
    rw [List.isEmpty_iff] at hle ⊢
    apply List.eq_nil_iff_forall_not_mem.mpr
    intro sm hsm
    have := (h3 sm).mp hsm
    rw [hle] at this; cases this

/-- C07: the outcome calculation classifies every valid position exactly as the rules do: checkmate (won by the side
not to move) iff in check with no legal move, stalemate iff not in check with no legal move, otherwise insufficient
material, then the 75-move (150 half-moves) limit, then the 50-move (100) limit, otherwise nothing — in that order of
precedence; and it never panics -/
theorem calcOutcome_eq (b : Board) (hv : Valid b) :
    Impl.calcOutcome? b = some ((Spec.outcome (abs b.r)).map ofSpec) := by
  obtain ⟨l, hl, hh⟩ := hasLegalMoves_spec b hv
  have hemp := legal_empty_iff b hv l hl
  unfold Impl.calcOutcome? Spec.outcome
  rw [hh, isCheck_spec b hv, hemp, abs_side]
  cases h1 : (Spec.legalMoves (abs b.r)).isEmpty
  · simp only [Bool.not_false, Bool.false_eq_true, if_false]
    rw [calcDrawSimple_draw b hv.shape.cons]
  · cases h2 : Spec.inCheck (abs b.r) b.r.side <;> simp [ofSpec]

/-- C07 (material): restated here so that the evidence lists it with this property -/
theorem insufficient_material_iff (b : Board) (hb : Consistent b) :
    isInsufficientMaterial b = Spec.insufficient (abs b.r) := insufficient_iff b hb

/-! non-vacuity: the initial position has legal moves and no outcome -/
example : Impl.calcOutcome? (buildBoard C04.initialRaw) = some none := by decide +kernel

end Owl.Props.C07
