/-
C06  Semilegal generation, semilegal validation and well-formedness agree.
`semilegalGen_all_iff`: on a valid position a move is produced by the semilegal generator iff it is well-formed and
`is_semilegal` accepts it; `semilegalGen_eq_pseudo`: that set is exactly the rules' pseudo-legal moves
(`Spec.pseudoMoves`, via Lemmas/PseudoSpec); `semilegalGen_iff` + `whichClass_spec`: the capture / simple /
simple-no-promote / simple-promote generators return exactly the corresponding subsets, so the full output is the
disjoint union of the capture and non-capture outputs and the non-capture output of its promotion and non-promotion
parts; `semilegalGen_nodup`: no duplicates; `generated_names_piece`: every generated move is well-formed and names the
man on its source square.
`move_new_iff_geom` (Lemmas/WfGeom): `Move::new` accepts exactly the geometrically possible (kind, piece, source,
destination) tuples, for all 532,480 tuples.
-/
import OwlModel.Lemmas.GenNodup
import OwlModel.Lemmas.PseudoSpec
import OwlModel.Props.C02
import OwlModel.Lemmas.WfGeom

namespace Owl.Props.C06
open Owl Owl.Impl Owl.Lemmas Owl.Props

/-- which moves each of the five public generators is meant to return -/
def whichClass (b : Board) (w : Which) (mv : Move) : Bool :=
  match w with
  | .all => inClass b mv true true true true
  | .capture => inClass b mv false true false false
  | .simple => inClass b mv true false true true
  | .simpleNoPromote => inClass b mv true false false true
  | .simplePromote => inClass b mv false false true false

theorem semilegalGen_eq (w : Which) (b : Board) :
    semilegalGen w b = (match w with
      | .all => genWith b b.r.side true true true true
      | .capture => genWith b b.r.side false true false false
      | .simple => genWith b b.r.side true false true true
      | .simpleNoPromote => genWith b b.r.side true false false true
      | .simplePromote => genWith b b.r.side false false true false) := by
  cases w <;> rfl

/-- C06: each semilegal generator returns exactly the well-formed semilegal moves of its class, each once -/
theorem semilegalGen_iff (b : Board) (hv : Valid b) (w : Which) (mv : Move) :
    mv ∈ semilegalGen w b ↔ (mv.isWellFormed = true ∧ isSemilegal b mv = true ∧ whichClass b w mv = true) := by
  rw [semilegalGen_eq]
  cases w <;> simp only [whichClass] <;> rw [mem_genWith_iff b hv] <;> unfold SL <;> exact and_assoc

theorem semilegalGen_nodup (b : Board) (hv : Valid b) (w : Which) : (semilegalGen w b).Nodup := by
  rw [semilegalGen_eq]
  cases w <;> exact genWith_nodup b hv _ _ _ _

/-- C06: the full generator returns exactly the well-formed semilegal moves -/
theorem semilegalGen_all_iff (b : Board) (hv : Valid b) (mv : Move) :
    mv ∈ semilegalGen .all b ↔ (mv.isWellFormed = true ∧ isSemilegal b mv = true) := by
  rw [semilegalGen_iff b hv]
  constructor
  · intro ⟨h1, h2, _⟩; exact ⟨h1, h2⟩
  · intro ⟨h1, h2⟩
    exact ⟨h1, h2, inClass_all b mv h2⟩

/-- C06: … and that set is exactly the rules' pseudo-legal moves -/
theorem semilegalGen_eq_pseudo (b : Board) (hv : Valid b) (sm : Spec.Move) :
    sm ∈ Spec.pseudoMoves (abs b.r) ↔ concMove sm ∈ semilegalGen .all b := by
  rw [semilegalGen_all_iff b hv, pseudo_iff_semilegal b hv]

/-- a capture: the destination holds a man, or the move is en passant -/
def isCapture (b : Board) (mv : Move) : Bool := decide (mv.kind = .ep) || decide (b.get mv.dst ≠ Cell.empty)

/-- C06: the classes of the five generators, for a semilegal move (the destination of a castling or double step is
empty, so "capture" is decided by the destination square or the en-passant kind) -/
theorem whichClass_spec (b : Board) (hv : Valid b) (mv : Move) (hwf : mv.isWellFormed = true)
    (hsl : isSemilegal b mv = true) :
    whichClass b .all mv = true
    ∧ whichClass b .capture mv = isCapture b mv
    ∧ whichClass b .simple mv = !isCapture b mv
    ∧ whichClass b .simpleNoPromote mv = (!isCapture b mv && !mv.kind.promote.isSome)
    ∧ whichClass b .simplePromote mv = (!isCapture b mv && mv.kind.promote.isSome) := by
  have hknull := (semilegal_base b mv hsl).1
  have ok := makeOk_of_semilegal b mv hv.shape hwf hsl
  obtain ⟨_, -, -, -, hK, hQ, -⟩ := sl_facts b mv hwf hsl
  refine ⟨inClass_all b mv hsl, ?_⟩
  unfold whichClass inClass isCapture MakeOk at *
  cases hk : mv.kind <;> simp only [hk] at ok hknull ⊢
  · exact absurd rfl hknull
  · by_cases he : b.get mv.dst = Cell.empty <;> simp [he, Kind.promote]
  · have hd : b.get mv.dst = Cell.empty := by rw [(hK hk).2]; exact ok.2.2.1
    simp [hd, Kind.promote]
  · have hd : b.get mv.dst = Cell.empty := by rw [(hQ hk).2]; exact ok.2.1
    simp [hd, Kind.promote]
  · simp [ok.2.1, Kind.promote]
  · simp [Kind.promote]
  all_goals (by_cases he : b.get mv.dst = Cell.empty <;> simp [he, Kind.promote])

/-- C06: every generated move is well-formed and names the man actually standing on its source square -/
theorem generated_names_piece (b : Board) (hv : Valid b) (w : Which) (mv : Move) (h : mv ∈ semilegalGen w b) :
    mv.isWellFormed = true ∧ b.get mv.src = mv.cell := by
  obtain ⟨h1, h2, _⟩ := (semilegalGen_iff b hv w mv).mp h
  exact ⟨h1, (semilegal_base b mv h2).2.1⟩

/-- C06: move construction accepts exactly the (kind, piece, source, destination) tuples that are geometrically
possible for that kind, so validation never sees a tuple it cannot handle -/
theorem move_new_iff_geom (k : Kind) (c : Cell) (s d : Sq) :
    (Move.new? k c s d).isSome = Spec.geomPossible k (absCell c) s d ∧
    Move.isWellFormed ⟨k, c, s, d⟩ = Spec.geomPossible k (absCell c) s d :=
  ⟨new?_iff k c s d, wf_iff_geom k c s d⟩

end Owl.Props.C06
