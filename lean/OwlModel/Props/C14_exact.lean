/-
C14 (continued): the occurrence count is EXACT — not merely an upper bound of the true repetitions — as soon as the
history contains no 64-bit Zobrist collision with the current position; the chain's calculation restated over the true
repetition count (same squares, side to move, castling rights, en-passant mark).
-/
import OwlModel.Props.C14

namespace Owl.Props.C14
open Owl Owl.Impl Owl.Lemmas Owl.Props Owl.Props.C13

/-- the repetition key of the property: squares, side to move, castling rights, en-passant mark (counters ignored) -/
def SameKey (x b : Board) : Prop :=
  x.r.cells = b.r.cells ∧ x.r.side = b.r.side ∧ x.r.castling = b.r.castling ∧ x.r.ep = b.r.ep

instance (x b : Board) : Decidable (SameKey x b) := by unfold SameKey; infer_instance

/-- true number of occurrences of the current position among the positions of the game so far -/
def trueOccurrences (hs : List Board) (b : Board) : Nat := (hs.filter fun x => decide (SameKey x b)).length

/-- no position of the history collides with the current one: equal hashes only for equal keys -/
def NoCollision (hs : List Board) (b : Board) : Prop := ∀ x ∈ hs, x.hash = b.hash → SameKey x b

/-- C14: without a hash collision the counted occurrences are exactly the true repetitions -/
theorem occurrences_eq (hs : List Board) (b : Board) (hb : Consistent b) (hcons : ∀ x ∈ hs, Consistent x)
    (hnc : NoCollision hs b) : occurrences hs b = trueOccurrences hs b := by
  apply Nat.le_antisymm
  · unfold trueOccurrences
    rw [occurrences_countP, ← List.countP_eq_length_filter]
    exact List.countP_mono_left fun x hx hk => decide_eq_true (hnc x hx (beq_iff_eq.mp hk))
  · exact occurrences_ge hs b hb hcons

/-- C14, stated over the true repetition count: for every game (`Game b0 st hs ch.board` — any interleaving of
accepted pushes and pops from a valid start) whose history has no hash collision with the current position -/
theorem calc_spec_exact (ch : Chain) (hs : List Board) (h : ChainInvH ch hs) (hb : Consistent ch.board)
    (hcons : ∀ x ∈ hs, Consistent x) (hnc : NoCollision hs ch.board) :
    ch.calcOutcome? =
      (match Impl.calcOutcome? ch.board with
       | none => none
       | some o =>
         if (o.any fun x => x.passes .strict) then some o
         else if trueOccurrences hs ch.board ≥ 5 then some (some (.draw .repeat5))
         else if trueOccurrences hs ch.board ≥ 3 then some (some (.draw .repeat3))
         else some o) := by
  rw [calc_spec ch hs h, occurrences_eq hs ch.board hb hcons hnc]
  cases Impl.calcOutcome? ch.board <;> rfl

/-- the same from the chain invariant alone (which every chain built through the safe API satisfies, C13.ops_inv):
the consistency side conditions are consequences of it -/
theorem calc_spec_exact' (ch : Chain) (hs : List Board) (h : ChainInvH ch hs) (hnc : NoCollision hs ch.board) :
    ch.calcOutcome? =
      (match Impl.calcOutcome? ch.board with
       | none => none
       | some o =>
         if (o.any fun x => x.passes .strict) then some o
         else if trueOccurrences hs ch.board ≥ 5 then some (some (.draw .repeat5))
         else if trueOccurrences hs ch.board ≥ 3 then some (some (.draw .repeat3))
         else some o) :=
  calc_spec_exact ch hs h (h.game.valid h.start).shape.cons (Game.consistent h.start h.game) hnc

/-- the hypothesis is met by a concrete non-trivial history: the start position twice -/
example (b : Board) : NoCollision [b, b] b := by
  intro x hx _
  simp at hx; subst hx
  exact ⟨rfl, rfl, rfl, rfl⟩

end Owl.Props.C14
