/-
C19 (capacity clause): no valid position has more than 256 semilegal moves — `semilegal_count_le_256`,
`pseudoMoves_le_256`, `semilegalCountBound`. The argument is laid out at the head of Lemmas/Bound/Certificate.lean; here
the 32 certificates are collected and the results stated. The bound is nearly tight: a valid position with 242
pseudo-legal moves exists.
-/
import OwlModel.Lemmas.Bound.Core
import OwlModel.Lemmas.Bound.Cert0
import OwlModel.Lemmas.Bound.Cert1
import OwlModel.Lemmas.Bound.Cert2
import OwlModel.Lemmas.Bound.Cert3

namespace Owl.Props.C19
open Owl Owl.Impl Owl.Lemmas Owl.Props

/-! The certificates cover White with the king on files e–h; Black and the files a–d follow by symmetry
(`score_le_of_white_east`). -/

def whiteEast : List (Sq × Tree) := cert0 ++ cert1 ++ cert2 ++ cert3

theorem whiteEast_ok : whiteEast.all (fun e => checkTree .white e.1 [] [] e.2) = true := by
  simp only [whiteEast, List.all_append, cert0_ok, cert1_ok, cert2_ok, cert3_ok, Bool.and_self]

theorem whiteEast_covers : ∀ κ : Sq, 4 ≤ Spec.file κ → κ ∈ whiteEast.map (·.1) := by decide

/-- the counting model never exceeds 256 (castling included) -/
theorem score_le_256 (c : Color) (τ : Sq → Ty) (κ : Sq) (hc : Cons τ κ [] []) : score c τ + castleB c κ ≤ 256 := by
  refine score_le_of_white_east (fun τ κ hκ hc => ?_) c τ κ hc
  obtain ⟨⟨_, t⟩, hm, rfl⟩ := List.mem_map.1 (whiteEast_covers κ hκ)
  exact tree_sound .white τ _ t [] [] (ok_of_cert whiteEast_ok hm) hc

/-- the rules' pseudo-legal move list of a valid board has at most 256 entries -/
theorem pseudoMoves_le_256 (b : Board) (hv : Valid b) : (Spec.pseudoMoves (abs b.r)).length ≤ 256 := by
  obtain ⟨κ, hc, hcas⟩ := valid_cons b hv
  have h2 := pseudo_len (abs b.r) κ hcas
  have h3 := score_le_256 (abs b.r).side (tyOf (abs b.r)) κ hc
  omega

/-- C19: the semilegal move list of a valid board fits the fixed buffer of 256 entries -/
theorem semilegal_count_le_256 (b : Board) (hv : Valid b) : (semilegalGen .all b).length ≤ 256 :=
  Nat.le_trans (gen_le_pseudo b hv) (pseudoMoves_le_256 b hv)

/-- the clause of C19 that `Props/C19.lean` states but leaves open -/
theorem semilegalCountBound : SemilegalCountBound := by
  intro raw b h
  exact semilegal_count_le_256 b (C02.validate_valid raw b h)

end Owl.Props.C19
