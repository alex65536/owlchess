/-
Prefilter soundness: `DefaultPrechecker` short-cuts only moves the exact test accepts, so the generators' legality
test (`Checker` behind `DefaultPrechecker`) equals `is_legal_unchecked` on every well-formed semilegal move
(`default_checker`), and filtering a list of such moves by it leaves the legal ones (`legalFilter_spec`).
-/
import OwlModel.Lemmas.Pinned

namespace Owl.Lemmas
open Owl Owl.Impl

/-- C01 (prefilter soundness): when the side to move is not in check, a semilegal move of a man that is neither the
king nor in `pinned`, other than en passant, passes the exact legality test -/
theorem prefilter_sound (b : Board) (mv : Move) (hs : Shape b) (hwf : mv.isWellFormed = true)
    (hsl : isSemilegal b mv = true) (k : Sq) (hking : b.get k = Cell.mk b.r.side .king)
    (huniq : ∀ t, b.get t = Cell.mk b.r.side .king → t = k)
    (hnc : isCellAttacked b k b.r.side.inv = false)
    (hpk : (pinned b b.r.side k ||| BB.single k).has mv.src = false) (hep : mv.kind ≠ .ep) :
    Checker.isLegal ⟨b, .nil, b.r.side.inv, k⟩ mv = true := by
  have hb := hs.cons
  rw [BB.has_or, BB.has_single, Bool.or_eq_false_iff] at hpk
  obtain ⟨hpin, hks⟩ := hpk
  have hsk : mv.src ≠ k := by intro e; simp [e] at hks
  -- castling moves start on the king's square
  have hcas : ∀ sd, mv.kind ≠ castleKind sd := fun sd h => by
    obtain ⟨e1, -, -⟩ := castle_semi b mv hwf hsl sd h
    exact hsk (e1.trans (huniq _ ((makeOk_of_semilegal b mv hs hwf hsl).castle sd h).1))
  have hn := nonCastle_of b mv hsl hcas
  rw [isLegal_noncastle b mv hs hwf hsl hn k (fun e => absurd e hsk), if_neg hsk]
  have F := moveFacts b mv hs hwf hsl
  have hb' := (make_shape b mv hs hwf hsl).cons
  have hv0 : BB.bit (mv.kind = .ep) (addU mv.dst (-(forwardDelta b.r.side))) = 0#64 := if_neg hep
  rw [Bool.not_eq_true', Bool.eq_false_iff]
  intro hatt
  obtain ⟨s, hs'⟩ := (isCellAttacked_has _ _ _).mp hatt
  rw [funext (post_sets b mv hs.cons hb' hn F), post_all b mv hs.cons hb' hn F, hv0] at hs'
  simp only [BitVec.or_zero, BitVec.xor_zero] at hs'
  have hcs : (b.color b.r.side).has mv.src = true := by
    rw [color_has b hb, F.srcc]; exact decide_eq_true rfl
  have hocc : ∀ x, (b.all ^^^ BB.single mv.src ||| BB.single mv.dst).has x = false → b.all.has x = true → x = mv.src := by
    intro x h1 h2
    rw [BB.has_or, BB.has_xor, BB.has_single, BB.has_single, h2] at h1
    by_cases e : mv.src = x
    · exact e.symm
    · simp [e] at h1
  -- the attacker is new, so it is a line piece that the mover alone shielded the king from: the mover was pinned
  rcases attackSet_new _ _ k _ _ _ s (fun p h => by rw [BB.has_and, Bool.and_eq_true] at h; exact h.1) hs'
      (no_attacker b k _ hnc s) with ⟨hnew, hold, hpc⟩ | ⟨hnew, hold, hpc⟩
  · obtain ⟨hv, hsx, hblk⟩ := Line.bishop.lone_blocker k mv.src s b.all _ hocc hnew hold
    have := pinned_has_diag b hb b.r.side k mv.src s hcs (by unfold Board.pieceDiag; rw [BB.has_or]; simpa using hpc)
      hv hsx hblk (color_sub_all b hb _ _ hcs)
    rw [hpin] at this; cases this
  · obtain ⟨hv, hsx, hblk⟩ := Line.rook.lone_blocker k mv.src s b.all _ hocc hnew hold
    have := pinned_has_line b hb b.r.side k mv.src s hcs (by unfold Board.pieceLine; rw [BB.has_or]; simpa using hpc)
      hv hsx hblk
    rw [hpin] at this; cases this

/-- C01: the generators' checker (`DefaultPrechecker`) exists on a valid board and decides `is_legal_unchecked` on
semilegal moves -/
theorem default_checker (b : Board) (hv : Valid b) :
    ∃ ck, defaultChecker? b = some ck ∧ ∀ mv, mv.isWellFormed = true → isSemilegal b mv = true →
      (ck.isLegal mv = true ↔ isLegalUnchecked? b mv = some true) := by
  obtain ⟨k, hking, huniq⟩ := hv.checks.king b.r.side
  have hkp := kingPos_of b hv.shape.cons b.r.side k hking huniq
  have hnil : ∀ (ck : Checker) (mv : Move), ck.isLegal mv = Checker.isLegal ⟨b, .nil, b.r.side.inv, k⟩ mv →
      (ck.isLegal mv = true ↔ isLegalUnchecked? b mv = some true) := by
    intro ck mv h
    rw [legal_unfold b hv.shape.cons mv k hking huniq, h, Option.some.injEq]
  unfold defaultChecker? defaultPre? isCheck? mkChecker?
  simp only [hkp]
  cases hc : isCellAttacked b k b.r.side.inv
  · refine ⟨_, rfl, fun mv hwf hsl => hnil _ mv ?_⟩
    unfold Checker.isLegal
    simp only [Pre.isLegalPre]
    by_cases hcond : (!(pinned b b.r.side k ||| BB.single k).has mv.src && decide (mv.kind ≠ .ep)) = true
    · rw [if_pos hcond]
      simp only [Bool.and_eq_true, Bool.not_eq_true', decide_eq_true_eq] at hcond
      have := prefilter_sound b mv hv.shape hwf hsl k hking huniq hc hcond.1 hcond.2
      unfold Checker.isLegal at this
      simp only [Pre.isLegalPre] at this
      exact this.symm
    · rw [if_neg hcond]; rfl
  · exact ⟨_, rfl, fun mv _ _ => hnil _ mv rfl⟩

/-- `LegalFilter`: filtering a duplicate-free list of well-formed semilegal moves by the default checker gives, each
once, the legal ones -/
theorem legalFilter_spec (b : Board) (hv : Valid b) (l : List Move) (hnd : l.Nodup) (A : Move → Prop)
    (hl : ∀ mv, mv ∈ l ↔ (SL b mv ∧ A mv)) :
    ∃ ck, defaultChecker? b = some ck ∧ (l.filter ck.isLegal).Nodup
      ∧ ∀ mv, mv ∈ l.filter ck.isLegal ↔
        ((mv.isWellFormed = true ∧ isSemilegal b mv = true ∧ isLegalUnchecked? b mv = some true) ∧ A mv) := by
  obtain ⟨ck, hck, hleg⟩ := default_checker b hv
  refine ⟨ck, hck, List.Pairwise.filter _ hnd, fun mv => ?_⟩
  rw [List.mem_filter, hl]
  exact ⟨fun ⟨⟨h, ha⟩, h3⟩ => ⟨⟨h.1, h.2, (hleg mv h.1 h.2).mp h3⟩, ha⟩,
    fun ⟨⟨h1, h2, h3⟩, ha⟩ => ⟨⟨⟨h1, h2⟩, ha⟩, (hleg mv h1 h2).mpr h3⟩⟩

/-- C01: the legality test the generators use (`DefaultPrechecker`) gives the same answers as the exact one -/
theorem isLegal_default (b : Board) (mv : Move) (hv : Valid b) (hwf : mv.isWellFormed = true)
    (hsl : isSemilegal b mv = true) (k : Sq) (hking : b.get k = Cell.mk b.r.side .king) :
    ∃ ck, defaultChecker? b = some ck ∧ ck.isLegal mv = Checker.isLegal ⟨b, .nil, b.r.side.inv, k⟩ mv := by
  have huniq : ∀ t, b.get t = Cell.mk b.r.side .king → t = k := fun _ => hv.checks.king_eq hking
  obtain ⟨ck, h1, h2⟩ := default_checker b hv
  refine ⟨ck, h1, ?_⟩
  rw [Bool.eq_iff_iff, h2 mv hwf hsl, legal_unfold b hv.shape.cons mv k hking huniq, Option.some.injEq]

end Owl.Lemmas
