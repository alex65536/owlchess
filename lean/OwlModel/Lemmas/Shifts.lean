/-
Membership in the file and rank masks, and in the pawn shift sets (`pawns::advance_forward/left/right`) in terms of the
square behind.
-/
import OwlModel.Lemmas.BitSet
import OwlModel.Impl.Moves

namespace Owl.Lemmas
open Owl Owl.Impl

theorem fileBB_has : ∀ (f : Fin 8) (s : Sq), (fileBB f).has s = decide (s.file = f) := by decide +kernel

theorem rankBB_has : ∀ (r : Fin 8) (s : Sq), (rankBB r).has s = decide (s.rank = r) := by decide +kernel

theorem has_shr (x : BB) (n : Nat) (d : Sq) : BB.has (x >>> n) d = x.getLsbD (n + d.val) := by
  simp [BB.has]

theorem has_shl (x : BB) (n : Nat) (d : Sq) : BB.has (x <<< n) d = (!decide (d.val < n) && x.getLsbD (d.val - n)) := by
  unfold BB.has
  rw [BitVec.getLsbD_shiftLeft]
  simp

theorem getLsbD_has (x : BB) (i : Nat) (s : Sq) (h : s.val = i) : x.getLsbD i = x.has s := by
  unfold BB.has; rw [h]

/-- the back rank from which a pawn of that colour cannot have come -/
def behindRank : Color → Fin 8 | .white => 7 | .black => 0

theorem shr_masked (X M : BB) (n : Nat) (d src : Sq) (ok : Bool)
    (h1 : ok = true → src.val = n + d.val ∧ M.getLsbD (n + d.val) = false)
    (h2 : ok = false → 64 ≤ n + d.val ∨ M.getLsbD (n + d.val) = true) :
    BB.has ((X &&& ~~~ M) >>> n) d = (ok && X.has src) := by
  rw [has_shr, BitVec.getLsbD_and]
  cases ok
  · rcases h2 rfl with h | h
    · rw [BitVec.getLsbD_of_ge X _ h]; simp
    · simp [BitVec.getLsbD_not, h]
  · obtain ⟨e, hm⟩ := h1 rfl
    have hlt : n + d.val < 64 := by rw [← e]; exact src.isLt
    rw [getLsbD_has X _ _ e, BitVec.getLsbD_not, hm]
    simp [hlt]

theorem shl_masked (X M : BB) (n : Nat) (d src : Sq) (ok : Bool)
    (h1 : ok = true → n ≤ d.val ∧ src.val = d.val - n ∧ M.getLsbD (d.val - n) = false)
    (h2 : ok = false → d.val < n ∨ M.getLsbD (d.val - n) = true) :
    BB.has ((X &&& ~~~ M) <<< n) d = (ok && X.has src) := by
  rw [has_shl, BitVec.getLsbD_and]
  cases ok
  · rcases h2 rfl with h | h
    · simp [h]
    · simp [BitVec.getLsbD_not, h]
  · obtain ⟨hn, e, hm⟩ := h1 rfl
    have hlt : d.val - n < 64 := by have := d.isLt; omega
    have : ¬ d.val < n := by omega
    rw [getLsbD_has X _ _ e, BitVec.getLsbD_not, hm]
    simp [hlt, this]

/-- the index of the square behind `d` (straight or diagonally), and the mask bit there, for each of the six shifts; the
amounts 8, 9 and 7 and the masked files are those of the generated code (`Gen.advForwardWBy` … `Gen.advRightMaskFile`; the
forward shifts have no mask), which `advanceForward_has` / `advanceLeft_has` / `advanceRight_has` unify them with -/
theorem advF_idx_w : ∀ d : Sq,
    (decide (d.rank ≠ behindRank .white) = true →
      (addU d (-(forwardDelta .white))).val = 8 + d.val ∧ (0#64 : BB).getLsbD (8 + d.val) = false)
    ∧ (decide (d.rank ≠ behindRank .white) = false → 64 ≤ 8 + d.val ∨ (0#64 : BB).getLsbD (8 + d.val) = true) := by
  decide +kernel
theorem advF_idx_b : ∀ d : Sq,
    (decide (d.rank ≠ behindRank .black) = true →
      8 ≤ d.val ∧ (addU d (-(forwardDelta .black))).val = d.val - 8 ∧ (0#64 : BB).getLsbD (d.val - 8) = false)
    ∧ (decide (d.rank ≠ behindRank .black) = false → d.val < 8 ∨ (0#64 : BB).getLsbD (d.val - 8) = true) := by
  decide +kernel
theorem advL_idx_w : ∀ d : Sq,
    (decide (d.rank ≠ behindRank .white ∧ d.file ≠ 7) = true →
      (addU d (-(leftDelta .white))).val = 9 + d.val ∧ (fileBB (fin8 Gen.advLeftMaskFile)).getLsbD (9 + d.val) = false)
    ∧ (decide (d.rank ≠ behindRank .white ∧ d.file ≠ 7) = false →
      64 ≤ 9 + d.val ∨ (fileBB (fin8 Gen.advLeftMaskFile)).getLsbD (9 + d.val) = true) := by decide +kernel
theorem advL_idx_b : ∀ d : Sq,
    (decide (d.rank ≠ behindRank .black ∧ d.file ≠ 7) = true →
      7 ≤ d.val ∧ (addU d (-(leftDelta .black))).val = d.val - 7 ∧ (fileBB (fin8 Gen.advLeftMaskFile)).getLsbD (d.val - 7) = false)
    ∧ (decide (d.rank ≠ behindRank .black ∧ d.file ≠ 7) = false →
      d.val < 7 ∨ (fileBB (fin8 Gen.advLeftMaskFile)).getLsbD (d.val - 7) = true) := by decide +kernel
theorem advR_idx_w : ∀ d : Sq,
    (decide (d.rank ≠ behindRank .white ∧ d.file ≠ 0) = true →
      (addU d (-(rightDelta .white))).val = 7 + d.val ∧ (fileBB (fin8 Gen.advRightMaskFile)).getLsbD (7 + d.val) = false)
    ∧ (decide (d.rank ≠ behindRank .white ∧ d.file ≠ 0) = false →
      64 ≤ 7 + d.val ∨ (fileBB (fin8 Gen.advRightMaskFile)).getLsbD (7 + d.val) = true) := by decide +kernel
theorem advR_idx_b : ∀ d : Sq,
    (decide (d.rank ≠ behindRank .black ∧ d.file ≠ 0) = true →
      9 ≤ d.val ∧ (addU d (-(rightDelta .black))).val = d.val - 9 ∧ (fileBB (fin8 Gen.advRightMaskFile)).getLsbD (d.val - 9) = false)
    ∧ (decide (d.rank ≠ behindRank .black ∧ d.file ≠ 0) = false →
      d.val < 9 ∨ (fileBB (fin8 Gen.advRightMaskFile)).getLsbD (d.val - 9) = true) := by decide +kernel

/-- `advance_forward`: `d` is in the shifted set iff the square one step behind `d` is in the set -/
theorem advanceForward_has (c : Color) (X : BB) (d : Sq) :
    (advanceForward c X).has d = (decide (d.rank ≠ behindRank c) && X.has (addU d (-(forwardDelta c)))) := by
  have hX : X &&& ~~~ 0#64 = X := by rw [BitVec.not_zero, BitVec.and_allOnes]
  cases c
  · simp only [advanceForward, shiftBy, Gen.advForwardWRight, Gen.advForwardWBy, if_true]
    have h := shr_masked X 0#64 8 d _ _ (advF_idx_w d).1 (advF_idx_w d).2
    rwa [hX] at h
  · simp only [advanceForward, shiftBy, Gen.advForwardBRight, Gen.advForwardBBy, Bool.false_eq_true, if_false]
    have h := shl_masked X 0#64 8 d _ _ (advF_idx_b d).1 (advF_idx_b d).2
    rwa [hX] at h

/-- `advance_left` / `advance_right`: `d` is in the shifted set iff the square diagonally behind it is in the set -/
theorem advanceLeft_has (c : Color) (X : BB) (d : Sq) :
    (advanceLeft c X).has d = (decide (d.rank ≠ behindRank c ∧ d.file ≠ 7) && X.has (addU d (-(leftDelta c)))) := by
  cases c
  · simp only [advanceLeft, shiftBy, Gen.advLeftWRight, Gen.advLeftWBy, if_true]
    exact shr_masked X _ 9 d _ _ (advL_idx_w d).1 (advL_idx_w d).2
  · simp only [advanceLeft, shiftBy, Gen.advLeftBRight, Gen.advLeftBBy, Bool.false_eq_true, if_false]
    exact shl_masked X _ 7 d _ _ (advL_idx_b d).1 (advL_idx_b d).2

theorem advanceRight_has (c : Color) (X : BB) (d : Sq) :
    (advanceRight c X).has d = (decide (d.rank ≠ behindRank c ∧ d.file ≠ 0) && X.has (addU d (-(rightDelta c)))) := by
  cases c
  · simp only [advanceRight, shiftBy, Gen.advRightWRight, Gen.advRightWBy, if_true]
    exact shr_masked X _ 7 d _ _ (advR_idx_w d).1 (advR_idx_w d).2
  · simp only [advanceRight, shiftBy, Gen.advRightBRight, Gen.advRightBBy, Bool.false_eq_true, if_false]
    exact shl_masked X _ 9 d _ _ (advR_idx_b d).1 (advR_idx_b d).2

end Owl.Lemmas
