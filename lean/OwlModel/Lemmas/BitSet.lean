/-
Bit-set kit: membership lemmas for bitboards (`BB = BitVec 64`) in one simp-normal form, and what emptiness, the size,
the member list and the first member say in terms of membership.
-/
import OwlModel.Basic

namespace Owl.Lemmas

theorem sq_all_nodup : Sq.all.Nodup := List.nodup_finRange 64
theorem mem_sq_all (s : Sq) : s ∈ Sq.all := List.mem_finRange s
theorem toList_nodup (X : BB) : X.toList.Nodup := List.Pairwise.filter _ sq_all_nodup

end Owl.Lemmas

namespace Owl.Sq

theorem flipRank_flipRank : ∀ s : Sq, s.flipRank.flipRank = s := by decide
theorem flipFile_flipFile : ∀ s : Sq, s.flipFile.flipFile = s := by decide

end Owl.Sq

namespace Owl.BB
open Owl

@[simp] theorem has_zero (s : Sq) : BB.has (0#64) s = false := by simp [BB.has]

@[simp] theorem has_zero' (s : Sq) : BB.has 0 s = false := has_zero s

@[simp] theorem has_single (s t : Sq) : (BB.single s).has t = decide (s = t) := by
  unfold BB.has BB.single
  have hs := s.isLt; have ht := t.isLt
  rw [BitVec.getLsbD_shiftLeft]
  by_cases h : s = t
  · subst h; simp [hs]
  · have hv : s.val ≠ t.val := fun e => h (Fin.ext e)
    simp only [ht, decide_true, Bool.true_and, h, decide_false]
    by_cases hlt : t.val < s.val
    · simp [hlt]
    · simp only [hlt, decide_false, Bool.not_false, Bool.true_and]
      have : t.val - s.val ≠ 0 := by omega
      simp [BitVec.getLsbD_one, this]

@[simp] theorem has_or (a b : BB) (s : Sq) : (a ||| b).has s = (a.has s || b.has s) := by simp [BB.has]
@[simp] theorem has_and (a b : BB) (s : Sq) : (a &&& b).has s = (a.has s && b.has s) := by simp [BB.has]
@[simp] theorem has_xor (a b : BB) (s : Sq) : (a ^^^ b).has s = (a.has s ^^ b.has s) := by simp [BB.has]
@[simp] theorem has_not (a : BB) (s : Sq) : (~~~ a).has s = !a.has s := by
  simp [BB.has, s.isLt]
@[simp] theorem has_allOnes (s : Sq) : BB.has (BitVec.allOnes 64) s = true := by
  unfold BB.has; rw [BitVec.getLsbD_allOnes]; simp [s.isLt]

theorem ext_has {a b : BB} (h : ∀ s : Sq, a.has s = b.has s) : a = b := by
  apply BitVec.eq_of_getLsbD_eq
  intro i hi
  exact h ⟨i, hi⟩

def bit (p : Prop) [Decidable p] (s : Sq) : BB := if p then single s else 0#64

@[simp] theorem has_bit (p : Prop) [Decidable p] (s t : Sq) : (bit p s).has t = (decide p && decide (s = t)) := by
  unfold bit; split <;> simp [*]
@[simp] theorem bit_true (s : Sq) : bit True s = single s := rfl
@[simp] theorem bit_false (s : Sq) : bit False s = 0#64 := rfl

theorem single_or_single {s d : Sq} (h : s ≠ d) : single s ||| single d = single s ^^^ single d := by
  apply ext_has; intro t
  simp only [has_or, has_xor, has_single]
  by_cases h1 : s = t <;> by_cases h2 : d = t <;> simp [h1, h2]
  exact h (h1.trans h2.symm)

theorem xor_xor_cancel (a m : BB) : a ^^^ m ^^^ m = a := by
  rw [BitVec.xor_assoc, BitVec.xor_self, BitVec.xor_zero]

theorem andNot_single (a : BB) (d : Sq) : a &&& ~~~ single d = a ^^^ bit (a.has d = true) d := by
  apply ext_has; intro t
  by_cases e : d = t
  · subst e; cases h : a.has d <;> simp [h]
  · simp [e]

theorem andNot_restore (a : BB) (d : Sq) : a &&& ~~~ single d ||| bit (a.has d = true) d = a := by
  apply ext_has; intro t
  by_cases e : d = t
  · subst e; cases h : a.has d <;> simp [h]
  · simp [e]

theorem eq_iff_has {a b : BB} : a = b ↔ ∀ s : Sq, a.has s = b.has s := ⟨fun h _ => h ▸ rfl, ext_has⟩

theorem isEmpty_iff (a : BB) : a.isEmpty = true ↔ ∀ s : Sq, a.has s = false := by
  unfold BB.isEmpty
  constructor
  · intro h s; have : a = 0#64 := eq_of_beq h; subst this; simp
  · intro h; have : a = 0#64 := ext_has (by intro s; simp [h s]); simp [this]

theorem getLsbD_foldl_or_if {α : Type} (p : α → Bool) (f : α → BB) (l : List α) (acc : BB) (j : Nat) :
    (l.foldl (fun acc i => if p i = true then acc ||| f i else acc) acc).getLsbD j
      = (acc.getLsbD j || l.any fun i => p i && (f i).getLsbD j) := by
  induction l generalizing acc with
  | nil => simp
  | cons a l ih =>
    simp only [List.foldl_cons, ih, List.any_cons]
    cases p a <;> simp [BitVec.getLsbD_or, Bool.or_assoc]

theorem getLsbD_foldl_or {α : Type} (f : α → BB) (l : List α) (acc : BB) (j : Nat) :
    (l.foldl (fun acc i => acc ||| f i) acc).getLsbD j
      = (acc.getLsbD j || l.any fun i => (f i).getLsbD j) := by
  simpa using getLsbD_foldl_or_if (fun _ => true) f l acc j

theorem has_foldl_cond (p : Sq → Bool) (l : List Sq) (acc : BB) (t : Sq) :
    (l.foldl (fun acc s => if p s then acc ||| single s else acc) acc).has t
      = (acc.has t || (decide (t ∈ l) && p t)) := by
  have hany : (l.any fun s => p s && (single s).has t) = (decide (t ∈ l) && p t) := by
    rw [Bool.eq_iff_iff]
    simp only [List.any_eq_true, has_single, Bool.and_eq_true, decide_eq_true_eq]
    exact ⟨fun ⟨s, hs, hp, e⟩ => e ▸ ⟨hs, hp⟩, fun ⟨hs, hp⟩ => ⟨t, hs, hp, rfl⟩⟩
  exact (getLsbD_foldl_or_if p single l acc t.val).trans (congrArg _ hany)

theorem has_foldl_or (l : List Sq) (acc : BB) (t : Sq) :
    (l.foldl (fun acc s => acc ||| BB.single s) acc).has t = (acc.has t || decide (t ∈ l)) := by
  simpa using has_foldl_cond (fun _ => true) l acc t

@[simp] theorem has_ofList (l : List Sq) (t : Sq) : (BB.ofList l).has t = decide (t ∈ l) := by
  unfold BB.ofList; rw [has_foldl_or]; simp

theorem mem_toList (b : BB) (s : Sq) : s ∈ b.toList ↔ b.has s = true := by
  simp [BB.toList, Lemmas.mem_sq_all]

theorem pair_nonEmpty (s d : Sq) (m : BB) : ((single s ||| single d) &&& m).nonEmpty = (m.has s || m.has d) := by
  have key : ((single s ||| single d) &&& m).isEmpty = true ↔ (m.has s = false ∧ m.has d = false) := by
    rw [isEmpty_iff]
    constructor
    · intro h; exact ⟨by simpa using h s, by simpa using h d⟩
    · rintro ⟨h1, h2⟩ t
      by_cases e1 : s = t
      · subst e1; simp [h1]
      · by_cases e2 : d = t
        · subst e2; simp [h2]
        · simp [e1, e2]
  show (!((single s ||| single d) &&& m).isEmpty) = _
  cases h1 : m.has s <;> cases h2 : m.has d <;> simp [h1, h2] at key ⊢ <;> simp [key]

end Owl.BB

namespace Owl.Lemmas
open Owl

theorem nonEmpty_iff (a : BB) : a.nonEmpty = true ↔ ∃ s : Sq, a.has s = true := by
  have h : a.nonEmpty = !a.isEmpty := rfl
  rw [h, Bool.not_eq_true', ← Bool.not_eq_true, BB.isEmpty_iff, Classical.not_forall]
  simp only [Bool.not_eq_false]

theorem nonEmpty_or (a b : BB) : (a ||| b).nonEmpty = (a.nonEmpty || b.nonEmpty) := by
  rw [Bool.eq_iff_iff, Bool.or_eq_true, nonEmpty_iff, nonEmpty_iff, nonEmpty_iff]
  simp only [BB.has_or, Bool.or_eq_true, exists_or]

theorem isEmpty_iff_len (a : BB) : a.isEmpty = true ↔ a.len = 0 := by
  rw [BB.isEmpty_iff]
  unfold BB.len BB.toList
  rw [List.length_eq_zero_iff, List.filter_eq_nil_iff]
  constructor
  · intro h s _; simp [h s]
  · intro h s; have := h s (List.mem_finRange _); simpa using this

theorem first?_none (a : BB) : a.first? = none ↔ ∀ s : Sq, a.has s = false := by
  unfold BB.first?
  rw [List.find?_eq_none]
  constructor
  · intro h s; have := h s (List.mem_finRange _); simpa using this
  · intro h s _; simp [h s]

theorem first?_some (a : BB) (p : Sq) (h : a.first? = some p) : a.has p = true := by
  unfold BB.first? at h
  exact List.find?_some h

end Owl.Lemmas
