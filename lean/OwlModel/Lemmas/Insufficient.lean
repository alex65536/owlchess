/-
C07, material and clocks: the bitboard test `is_insufficient_material` is the rule `Spec.insufficient`, and
`calc_draw_simple` is `Spec.drawSimple`.
-/
import OwlModel.Lemmas.Valid
namespace Owl.Props.C07
open Owl Owl.Impl Owl.Lemmas

theorem masks_spec : ∀ s : Sq,
    lightSquares.has s = Spec.squareLight s ∧ darkSquares.has s = !Spec.squareLight s := by
  decide +kernel

def nonKings (b : Board) : BB := b.all ^^^ (b.piece2 .white .king ||| b.piece2 .black .king)
def menBB (b : Board) (p : Piece) : BB := b.piece2 .white p ||| b.piece2 .black p

theorem nonKings_has (b : Board) (hb : Consistent b) (s : Sq) :
    (nonKings b).has s = ((abs b.r).get s).any (·.piece != .king) := by
  unfold nonKings
  rw [BB.has_xor, BB.has_or, all_has b hb, piece2_has b hb, piece2_has b hb, get_abs]
  show _ = (absCell (b.get s)).any _
  generalize b.get s = x
  revert x; decide

theorem menBB_has (b : Board) (hb : Consistent b) (p : Piece) (s : Sq) :
    (menBB b p).has s = ((abs b.r).get s).any (·.piece == p) := by
  unfold menBB
  rw [BB.has_or, piece2_has b hb, piece2_has b hb, get_abs]
  show _ = (absCell (b.get s)).any _
  generalize b.get s = x
  cases p <;> revert x <;> decide

theorem sub_of_piece (o : Option Spec.Man) (pc : Piece) (h : pc ≠ .king) :
    o.any (·.piece == pc) = true → o.any (·.piece != .king) = true := by
  cases o with
  | none => simp
  | some m =>
    obtain ⟨c, p⟩ := m
    cases p <;> cases pc <;> simp_all

theorem nonEmpty_and_eq_any (a m : BB) (f : Sq → Bool) (hm : ∀ s, m.has s = f s) :
    (a &&& m).nonEmpty = a.toList.any f := by
  rw [Bool.eq_iff_iff, nonEmpty_iff, List.any_eq_true]
  constructor
  · rintro ⟨s, hs⟩
    rw [BB.has_and, Bool.and_eq_true, hm] at hs
    exact ⟨s, (BB.mem_toList a s).mpr hs.1, hs.2⟩
  · rintro ⟨s, hs, hf⟩
    exact ⟨s, by rw [BB.has_and, hm, (BB.mem_toList a s).mp hs, hf]; rfl⟩

theorem isEmpty_eq (a : BB) : a.isEmpty = a.toList.isEmpty := by
  rw [Bool.eq_iff_iff, BB.isEmpty_iff, List.isEmpty_iff, List.eq_nil_iff_forall_not_mem]
  simp only [BB.mem_toList, Bool.not_eq_true]

/-- equality with a subset is "every member is in the subset" -/
theorem eq_sub_iff (a k : BB) (f : Sq → Bool) (hk : ∀ s, k.has s = f s)
    (hsub : ∀ s, f s = true → a.has s = true) :
    decide (a = k) = a.toList.all f := by
  rw [Bool.eq_iff_iff, decide_eq_true_iff, List.all_eq_true]
  constructor
  · intro h s hs
    rw [← hk, ← h]; exact (BB.mem_toList a s).mp hs
  · intro h
    apply BB.ext_has
    intro s
    rw [hk]
    cases hf : f s
    · cases ha : a.has s
      · rfl
      · have := h s ((BB.mem_toList a s).mpr ha); rw [hf] at this; cases this
    · exact hsub s hf

/-- the control flow of `is_insufficient_material` (left: both square colours occupied → no; nothing but kings → yes;
only knights and exactly one → yes; else "only bishops") against `Spec.insufficient` (right), over the list `l` of
squares holding a man other than a king; `light` = the square is light, `p` / `q` = it holds a knight / a bishop -/
theorem list_core (l : List Sq) (light p q : Sq → Bool) :
    (if (l.any light && l.any (fun s => !light s)) = true then false
     else if l.isEmpty = true then true
     else if (l.all p && decide (l.length = 1)) = true then true
     else l.all q)
    = (l.isEmpty || (decide (l.length = 1) && l.all p)
        || (l.all q && (l.all light || l.all (fun s => !light s)))) := by
  rw [← List.not_all_eq_any_not, ← Bool.not_not (l.any light), List.not_any_eq_all_not]
  match l with
  | [] => rfl
  | [x] =>
    simp only [List.all_cons, List.all_nil, Bool.and_true, List.isEmpty_cons, List.length_cons,
      List.length_nil]
    cases light x <;> cases p x <;> cases q x <;> rfl
  | x :: y :: r =>
    have hlen : decide ((x :: y :: r).length = 1) = false := by
      simp only [List.length_cons]; exact decide_eq_false (by omega)
    rw [hlen]
    simp only [List.isEmpty_cons]
    generalize (x :: y :: r).all light = a
    generalize (x :: y :: r).all (fun s => !light s) = d
    generalize (x :: y :: r).all q = c
    generalize (x :: y :: r).all p = e
    cases a <;> cases d <;> cases c <;> cases e <;> rfl

theorem others_eq (b : Board) (hb : Consistent b) :
    (Spec.allSq.filter fun s => ((abs b.r).get s).any (·.piece != .king)) = (nonKings b).toList := by
  unfold BB.toList Spec.allSq Sq.all
  apply List.filter_congr
  intro s _
  exact (nonKings_has b hb s).symm

theorem insufficient_iff (b : Board) (hb : Consistent b) :
    isInsufficientMaterial b = Spec.insufficient (abs b.r) := by
  unfold Spec.insufficient
  simp only []
  rw [others_eq b hb]
  have h1 := nonEmpty_and_eq_any (nonKings b) lightSquares Spec.squareLight fun s => (masks_spec s).1
  have h2 := nonEmpty_and_eq_any (nonKings b) darkSquares (fun s => !Spec.squareLight s) fun s => (masks_spec s).2
  have h3 := isEmpty_eq (nonKings b)
  have h4 := eq_sub_iff (nonKings b) (menBB b .knight) _ (menBB_has b hb .knight)
    (fun s h => by rw [nonKings_has b hb]; exact sub_of_piece _ .knight (by decide) h)
  have h5 := eq_sub_iff (nonKings b) (menBB b .bishop) _ (menBB_has b hb .bishop)
    (fun s h => by rw [nonKings_has b hb]; exact sub_of_piece _ .bishop (by decide) h)
  have h6 : (decide (nonKings b = menBB b .knight) && Gen.loneKnight (menBB b .knight).len)
      = (decide (nonKings b = menBB b .knight) && decide ((nonKings b).toList.length = 1)) := by
    by_cases h : nonKings b = menBB b .knight
    · rw [← h]; rfl
    · simp only [h, decide_false, Bool.false_and]
  have key := list_core (nonKings b).toList Spec.squareLight
    (fun s => ((abs b.r).get s).any (·.piece == .knight))
    (fun s => ((abs b.r).get s).any (·.piece == .bishop))
  rw [← key, ← h1, ← h2, ← h3, ← h4, ← h5, ← h6]
  rfl

/-- draw reason ↦ rules-level outcome. `agreement` / `unknown` have no rules-level counterpart (they are never
produced by `calcDrawSimple`, see `calcDrawSimple_range`); they are sent to `none` in `trDraw?` and to an
arbitrary value in the total `trDraw`. -/
def trDraw? : DrawReason → Option Spec.Outcome
  | .insufficientMaterial => some .insufficient
  | .moves75 => some .moves75
  | .moves50 => some .moves50
  | .stalemate => some .stalemate
  | .repeat5 => some .repeat5
  | .repeat3 => some .repeat3
  | _ => none

def trDraw (d : DrawReason) : Spec.Outcome := (trDraw? d).getD .stalemate

/-- rules-level outcome ↦ implementation outcome (total, injective) -/
def ofSpec : Spec.Outcome → Impl.Outcome
  | .checkmate c => .win c .checkmate | .stalemate => .draw .stalemate
  | .insufficient => .draw .insufficientMaterial | .moves75 => .draw .moves75 | .moves50 => .draw .moves50
  | .repeat5 => .draw .repeat5 | .repeat3 => .draw .repeat3

theorem ofSpec_injective (x y : Spec.Outcome) (h : ofSpec x = ofSpec y) : x = y := by
  cases x <;> cases y <;> simp_all [ofSpec]

theorem calcDrawSimple_spec (b : Board) (hb : Consistent b) :
    calcDrawSimple b =
      (if Spec.insufficient (abs b.r) then some .insufficientMaterial
       else if (abs b.r).half ≥ 150 then some .moves75
       else if (abs b.r).half ≥ 100 then some .moves50
       else none) := by
  unfold calcDrawSimple
  rw [insufficient_iff b hb, abs_half]
  unfold Gen.moves75 Gen.moves50
  simp only [decide_eq_true_eq]

/-- `calc_draw_simple` is the rule, reason for reason: any reading `f` of the draw reasons that sends the three
reasons it can return to the rule's three outcomes turns it into `Spec.drawSimple` -/
theorem calcDrawSimple_bind {α : Type} (b : Board) (hb : Consistent b) (f : DrawReason → Option α)
    (g : Spec.Outcome → α)
    (h1 : f .insufficientMaterial = some (g .insufficient)) (h2 : f .moves75 = some (g .moves75))
    (h3 : f .moves50 = some (g .moves50)) :
    (calcDrawSimple b).bind f = (Spec.drawSimple (abs b.r)).map g := by
  rw [calcDrawSimple_spec b hb]
  unfold Spec.drawSimple
  repeat' split
  all_goals simp only [Option.bind_some, Option.bind_none, Option.map_some, Option.map_none, h1, h2, h3]

theorem calcDrawSimple_eq_bind (b : Board) (hb : Consistent b) :
    (calcDrawSimple b).bind trDraw? = Spec.drawSimple (abs b.r) :=
  (calcDrawSimple_bind b hb trDraw? id rfl rfl rfl).trans Option.map_id'

theorem calcDrawSimple_eq (b : Board) (hb : Consistent b) :
    (calcDrawSimple b).map trDraw = Spec.drawSimple (abs b.r) :=
  Option.map_eq_bind.trans ((calcDrawSimple_bind b hb _ id rfl rfl rfl).trans Option.map_id')

/-- the form `calcOutcome?` uses: `(calcDrawSimple b).map .draw` -/
theorem calcDrawSimple_draw (b : Board) (hb : Consistent b) :
    (calcDrawSimple b).map Outcome.draw = (Spec.drawSimple (abs b.r)).map ofSpec :=
  Option.map_eq_bind.trans (calcDrawSimple_bind b hb _ ofSpec rfl rfl rfl)

/-- only these results occur, so the junk value of `trDraw` is never used -/
theorem calcDrawSimple_range (b : Board) :
    calcDrawSimple b = none ∨ calcDrawSimple b = some .insufficientMaterial
      ∨ calcDrawSimple b = some .moves75 ∨ calcDrawSimple b = some .moves50 := by
  unfold calcDrawSimple
  cases isInsufficientMaterial b <;> cases Gen.moves75 b.r.mc <;> cases Gen.moves50 b.r.mc <;> simp

end Owl.Props.C07
