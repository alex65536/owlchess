/-
The two line pieces as one `Line`: directions, lookup, alignment table and strictly-between table, tied to the ray
walk by C15. What is said later about a rook or bishop line is proved once for a `Line`: the lookup in terms of the
between tables, read from the source (`attack_has_from`) and from the target (`attack_has`), its symmetry, that it reads
only the squares strictly between (`attack_congr`), an aligned pair in coordinates (`coords`, `of_along`) with the
geometry of a pin line read off it (`strict_sub`, `strict_pre`), and the line with a single man on it (`lone_blocker`,
`attack_through`, `xray`). At the end the facts that belong to one of the two lines only: diagonals change rank, a rank
is a rook line, no pair is aligned both ways.
-/
import OwlModel.Lemmas.Tables
import OwlModel.Lemmas.TablesNear
import OwlModel.Lemmas.Rays

namespace Owl.Lemmas
open Owl Owl.Impl

/-- what the proofs use of a line piece; the table `strict a b` is tied down only for aligned `a`, `b`, so every fact
about it assumes `valid a b` -/
structure Line where
  dirs : List (Int × Int)
  attack : Sq → BB → BB
  valid : Sq → Sq → Bool
  strict : Sq → Sq → BB
  compass : Compass dirs
  attack_eq : ∀ s occ, attack s occ = slideBB dirs occ s
  valid_eq : ∀ a b, valid a b = (Spec.between dirs a b).isSome
  strict_eq : ∀ a b l, Spec.between dirs a b = some l → strict a b = BB.ofList l

def Line.rook : Line :=
  ⟨Spec.rookDirs, rookAttack, isRookValid, rookStrict, compass_rook, rookAttack_eq_slide, rook_valid_eq, rook_strict_eq⟩

def Line.bishop : Line :=
  ⟨Spec.bishopDirs, bishopAttack, isBishopValid, bishopStrict, compass_bishop, bishopAttack_eq_slide, bishop_valid_eq,
    bishop_strict_eq⟩

namespace Line
variable (L : Line)

theorem unit : ∀ d ∈ L.dirs, UnitDir d := fun d hd => (L.compass d hd).1

/-- an aligned pair in coordinates: direction, distance, and the squares strictly between -/
theorem coords {s t : Sq} (hv : L.valid s t = true) :
    ∃ d ∈ L.dirs, ∃ k : Int, 0 < k ∧ k ≤ 7 ∧ Along d k s t ∧
      ∀ x, (L.strict s t).has x = true ↔ ∃ j : Int, 0 < j ∧ j < k ∧ Along d j s x := by
  rw [L.valid_eq] at hv
  obtain ⟨l, hl⟩ := Option.isSome_iff_exists.mp hv
  obtain ⟨d, hd, k, k1, k2, k3, hmem⟩ := between_eq_some L.unit hl
  exact ⟨d, hd, k, k1, k2, k3, fun x => by rw [L.strict_eq _ _ _ hl, BB.has_ofList, decide_eq_true_eq, hmem]⟩

/-- and back: squares `k` steps apart along one of the directions are aligned -/
theorem of_along {s t : Sq} {d : Int × Int} (hd : d ∈ L.dirs) {k : Int} (k1 : 0 < k) (k2 : k ≤ 7) (k3 : Along d k s t) :
    L.valid s t = true ∧ ∀ x, (L.strict s t).has x = true ↔ ∃ j : Int, 0 < j ∧ j < k ∧ Along d j s x := by
  obtain ⟨l, hl, hmem⟩ := between_of_along L.unit hd k1 k2 k3
  exact ⟨by rw [L.valid_eq, hl]; rfl, fun x => by rw [L.strict_eq _ _ _ hl, BB.has_ofList, decide_eq_true_eq, hmem]⟩

theorem valid_along {s d : Sq} (h : L.valid s d = true) : ∃ dir ∈ L.dirs, ∃ k : Int, 0 < k ∧ Along dir k s d := by
  obtain ⟨dir, hd, k, k1, _, k3, _⟩ := L.coords h
  exact ⟨dir, hd, k, k1, k3⟩

theorem valid_ne {s d : Sq} (h : L.valid s d = true) : s ≠ d := by
  obtain ⟨dir, hd, k, k1, k3⟩ := L.valid_along h
  exact along_ne (L.unit dir hd) k1 k3

/-- C15: the lookup is the ray walk -/
theorem attack_iff (s : Sq) (occ : BB) (t : Sq) :
    (L.attack s occ).has t = true ↔ t ∈ Spec.slide L.dirs (fun x => occ.has x) s := by
  rw [L.attack_eq]; simp [slideBB]

/-- C16: line attacks are symmetric for every occupancy -/
theorem attack_symm (s t : Sq) (occ : BB) : (L.attack s occ).has t = true ↔ (L.attack t occ).has s = true := by
  rw [attack_iff, attack_iff]; exact slide_symm L.compass _ s t

/-- the lookup in terms of the between tables: `t` is hit from `s` iff aligned with nothing in between -/
theorem attack_has_from (s t : Sq) (occ : BB) :
    (L.attack s occ).has t = (L.valid s t && (L.strict s t &&& occ).isEmpty) := by
  rw [Bool.eq_iff_iff, attack_iff, L.valid_eq, Bool.and_eq_true, BB.isEmpty_iff]
  constructor
  · intro h
    obtain ⟨d, hd, hm, hf⟩ := (mem_slide_iff _ _ _ _).mp h
    have hb := between_of_ray L.unit s t hd hm
    refine ⟨by rw [hb]; rfl, fun x => ?_⟩
    rw [L.strict_eq _ _ _ hb, BB.has_and, BB.has_ofList]
    cases hx : decide (x ∈ (Spec.ray d 7 s).takeWhile (· ≠ t))
    · rfl
    · rw [hf x (of_decide_eq_true hx)]; rfl
  · rintro ⟨hv, he⟩
    obtain ⟨l, hl⟩ := Option.isSome_iff_exists.mp hv
    apply slide_of_between L.dirs _ s t l hl
    intro x hx
    have := he x
    rw [L.strict_eq _ _ _ hl, BB.has_and, BB.has_ofList] at this
    simpa [hx] using this

/-- … and read from the target, as the attack detection looks along the line from the attacked square -/
theorem attack_has (t s : Sq) (occ : BB) :
    (L.attack t occ).has s = (L.valid s t && (L.strict s t &&& occ).isEmpty) := by
  rw [← L.attack_has_from, Bool.eq_iff_iff]
  exact L.attack_symm t s occ

/-- a man strictly between blocks the line -/
theorem attack_blocked {s t x : Sq} {occ : BB} (hx : (L.strict s t).has x = true) (ho : occ.has x = true) :
    (L.attack t occ).has s = false := by
  rw [attack_has]
  cases h : (L.strict s t &&& occ).isEmpty
  · exact Bool.and_false _
  · have := (BB.isEmpty_iff _).mp h x
    rw [BB.has_and, hx, ho] at this; cases this

/-- a lookup reads only the squares strictly between -/
theorem attack_congr (t s : Sq) (occ occ' : BB)
    (h : L.valid s t = true → ∀ x, (L.strict s t).has x = true → occ.has x = occ'.has x) :
    (L.attack t occ).has s = (L.attack t occ').has s := by
  rw [attack_has, attack_has]
  cases hv : L.valid s t
  · rfl
  · have hx := h hv
    have : L.strict s t &&& occ = L.strict s t &&& occ' := by
      apply BB.ext_has; intro x
      rw [BB.has_and, BB.has_and]
      cases hs : (L.strict s t).has x
      · rfl
      · rw [hx x hs]
    rw [this]

/-- geometry of a pin line: a square strictly between an aligned pair is aligned with the far end, and what lies between
it and that end lies between the pair -/
theorem strict_sub (s k : Sq) (hv : L.valid s k = true) (x : Sq) (hx : (L.strict s k).has x = true) :
    L.valid x k = true ∧ (∀ y, (L.strict x k).has y = true → (L.strict s k).has y = true)
      ∧ (L.strict x k).has x = false := by
  obtain ⟨d, hd, m, m1, m2, m3, hl⟩ := L.coords hv
  obtain ⟨j, j1, j2, j3⟩ := (hl x).mp hx
  obtain ⟨hv', hl'⟩ := L.of_along hd (k := m - j) (by omega) (by omega) (along_sub j3 m3)
  refine ⟨hv', fun y hy => ?_, ?_⟩
  · obtain ⟨i, i1, i2, i3⟩ := (hl' y).mp hy
    exact (hl y).mpr ⟨j + i, by omega, by omega, along_add j3 i3⟩
  · rw [Bool.eq_false_iff, Ne, hl']
    rintro ⟨i, i1, _, i3⟩
    exact along_ne (L.unit d hd) i1 i3 rfl

/-- a square strictly between an aligned pair is aligned with the near end, with only squares between the pair in between -/
theorem strict_pre (s k : Sq) (hv : L.valid s k = true) (x : Sq) (hx : (L.strict s k).has x = true) :
    L.valid s x = true ∧ ∀ y, (L.strict s x).has y = true → (L.strict s k).has y = true := by
  obtain ⟨d, hd, m, m1, m2, m3, hl⟩ := L.coords hv
  obtain ⟨j, j1, j2, j3⟩ := (hl x).mp hx
  obtain ⟨hv', hl'⟩ := L.of_along hd j1 (by omega) j3
  refine ⟨hv', fun y hy => ?_⟩
  obtain ⟨i, i1, i2, i3⟩ := (hl' y).mp hy
  exact (hl y).mpr ⟨i, i1, by omega, i3⟩

theorem strict_no_end {s t : Sq} (hv : L.valid s t = true) :
    (L.strict s t).has t = false ∧ (L.strict s t).has s = false := by
  obtain ⟨d, hd, k, k1, _, k3, hmem⟩ := L.coords hv
  rw [Bool.eq_false_iff, Bool.eq_false_iff, Ne, Ne, hmem, hmem]
  constructor
  · rintro ⟨j, j1, j2, j3⟩
    exact along_ne (L.unit d hd) (by omega) (along_sub j3 k3) rfl
  · rintro ⟨j, j1, _, j3⟩
    exact along_ne (L.unit d hd) j1 j3 rfl

/-- between squares of different ranks, every square strictly between is on a rank of its own -/
theorem strict_rank {s t x : Sq} (hv : L.valid s t = true) (hx : (L.strict s t).has x = true)
    (h : Spec.rank s ≠ Spec.rank t) : Spec.rank x ≠ Spec.rank t := by
  obtain ⟨d, hd, k, k1, _, k3, hmem⟩ := L.coords hv
  obtain ⟨j, j1, j2, j3⟩ := (hmem x).mp hx
  have := along_sign (L.unit d hd) k1 k3
  have := along_sign (L.unit d hd) (k := k - j) (by omega) (along_sub j3 k3)
  omega

/-- a man standing on the square looked from does not shield it -/
theorem attack_self (pos : Sq) (occ : BB) : L.attack pos (occ ||| BB.single pos) = L.attack pos occ := by
  apply BB.ext_has; intro s
  apply L.attack_congr
  intro hv x hx
  have : pos ≠ x := by rintro rfl; rw [(L.strict_no_end hv).1] at hx; cases hx
  simp [BB.has_or, BB.has_single, this]

/-- a line attack on `k` that is there under `occ'` and not under `occ`, where `occ'` lacks of `occ` at most `src`:
`src` is the only man of `occ` between -/
theorem lone_blocker (k src s : Sq) (occ occ' : BB)
    (hocc : ∀ x, occ'.has x = false → occ.has x = true → x = src)
    (hnew : (L.attack k occ').has s = true) (hold : (L.attack k occ).has s = false) :
    L.valid s k = true ∧ (L.strict s k).has src = true
      ∧ ∀ y, (L.strict s k).has y = true → occ.has y = true → y = src := by
  rw [L.attack_has, Bool.and_eq_true] at hnew
  obtain ⟨hv, hemp⟩ := hnew
  rw [L.attack_has, hv, Bool.true_and] at hold
  have hfree := (BB.isEmpty_iff _).mp hemp
  have hblk : ∀ y, (L.strict s k).has y = true → occ.has y = true → y = src := by
    intro y hy ha
    have := hfree y
    rw [BB.has_and, hy, Bool.true_and] at this
    exact hocc y this ha
  refine ⟨hv, ?_, hblk⟩
  cases hh : (L.strict s k).has src
  · exfalso
    have : (L.strict s k &&& occ).isEmpty = true := by
      rw [BB.isEmpty_iff]; intro y; rw [BB.has_and]
      cases hy : (L.strict s k).has y
      · rfl
      · cases ha : occ.has y
        · rfl
        · have := hblk y hy ha; subst this; rw [hh] at hy; cases hy
    rw [this] at hold; cases hold
  · rfl

/-- a line attack on `f` that appears when the man on `e` leaves: that man was attacked along the same line -/
theorem attack_through (f e s : Sq) (occ : BB) (hnew : (L.attack f (occ ^^^ BB.single e)).has s = true)
    (hold : (L.attack f occ).has s = false) : (L.attack e occ).has s = true := by
  obtain ⟨hv, he, hblk⟩ := L.lone_blocker f e s occ _ (fun x h1 h2 => by
    rw [BB.has_xor, BB.has_single, h2] at h1; exact (by simpa using h1 : e = x).symm) hnew hold
  obtain ⟨hve, hsub⟩ := L.strict_pre s f hv e he
  rw [L.attack_has, hve, Bool.true_and, BB.isEmpty_iff]
  intro y
  rw [BB.has_and]
  cases hy : (L.strict s e).has y
  · rfl
  · cases ho : occ.has y
    · rfl
    · rw [hblk y (hsub y hy) ho, (L.strict_no_end hve).1] at hy; cases hy

/-- `x` of `own ⊆ occ` the only man between `s` and `k`: the x-ray lookup from `k` through its own men reaches `s` -/
theorem xray (occ own : BB) (hsub : ∀ y, own.has y = true → occ.has y = true) (k x s : Sq)
    (hx : own.has x = true) (hv : L.valid s k = true) (hxs : (L.strict s k).has x = true)
    (honly : ∀ y, (L.strict s k).has y = true → occ.has y = true → y = x) :
    (L.attack k (occ ^^^ (L.attack k occ &&& own))).has s = true := by
  obtain ⟨g1, g2, g3⟩ := L.strict_sub s k hv x hxs
  have hnear : (L.attack k occ &&& own).has x = true := by
    rw [BB.has_and, hx, Bool.and_true, L.attack_has, g1, Bool.true_and, BB.isEmpty_iff]
    intro y
    rw [BB.has_and]
    cases hy : (L.strict x k).has y
    · rfl
    · cases ha : occ.has y
      · rfl
      · have := honly y (g2 y hy) ha
        subst this
        rw [g3] at hy; cases hy
  rw [L.attack_has, hv, Bool.true_and, BB.isEmpty_iff]
  intro y
  rw [BB.has_and, BB.has_xor]
  cases hy : (L.strict s k).has y
  · rfl
  · cases ha : occ.has y
    · cases hn : (L.attack k occ &&& own).has y
      · rfl
      · rw [BB.has_and, Bool.and_eq_true] at hn
        rw [hsub y hn.2] at ha; cases ha
    · have := honly y hy ha
      subst this
      simp [hnear]

theorem not_attack_self (pos : Sq) (occ : BB) : (L.attack pos occ).has pos = false := by
  cases h : (L.attack pos occ).has pos
  · rfl
  · obtain ⟨d, hd, hm, _⟩ := (mem_slide_iff _ _ _ _).mp ((L.attack_iff pos occ pos).mp h)
    obtain ⟨k, k1, _, k3⟩ := (mem_ray_iff (L.unit d hd) pos 7 pos).mp hm
    exact absurd rfl (along_ne (L.unit d hd) k1 k3)

end Line

/-- squares aligned on a diagonal are on different ranks -/
theorem bishop_rank_ne {s t : Sq} (hv : isBishopValid s t = true) : Spec.rank s ≠ Spec.rank t := by
  obtain ⟨d, hd, k, k1, k3⟩ := Line.bishop.valid_along hv
  have hd2 : d.2 ≠ 0 := by
    have : ∀ d ∈ Spec.bishopDirs, d.2 ≠ 0 := by decide
    exact this d hd
  have := along_sign (Line.bishop.unit d hd) k1 k3
  omega

/-- a rook along a rank: any two squares of a rank are aligned, with exactly the squares of that rank between their
files in between -/
theorem rook_same_rank {s t : Sq} (hr : Spec.rank s = Spec.rank t) (hne : s ≠ t) :
    isRookValid s t = true ∧ ∀ x, (rookStrict s t).has x = true ↔
      (Spec.rank x = Spec.rank s ∧ ((Spec.file s < Spec.file x ∧ Spec.file x < Spec.file t)
        ∨ (Spec.file t < Spec.file x ∧ Spec.file x < Spec.file s))) := by
  have hf : Spec.file s ≠ Spec.file t := fun e => hne (Props.C18.sq_ext e hr)
  have := s.isLt; have := t.isLt
  rcases Nat.lt_or_gt_of_ne hf with h | h
  · obtain ⟨hv, hx⟩ := Line.rook.of_along (s := s) (t := t) (d := (1, 0)) (by decide)
      (k := (Spec.file t : Int) - Spec.file s) (by omega) (by unfold Spec.file; omega) (by unfold Along; omega)
    refine ⟨hv, fun x => (hx x).trans ?_⟩
    unfold Along
    constructor
    · rintro ⟨j, j1, j2, j3, j4⟩; omega
    · rintro ⟨h1, h2⟩; exact ⟨(Spec.file x : Int) - Spec.file s, by omega, by omega, by omega, by omega⟩
  · obtain ⟨hv, hx⟩ := Line.rook.of_along (s := s) (t := t) (d := (-1, 0)) (by decide)
      (k := (Spec.file s : Int) - Spec.file t) (by omega) (by unfold Spec.file; omega) (by unfold Along; omega)
    refine ⟨hv, fun x => (hx x).trans ?_⟩
    unfold Along
    constructor
    · rintro ⟨j, j1, j2, j3, j4⟩; omega
    · rintro ⟨h1, h2⟩; exact ⟨(Spec.file s : Int) - Spec.file x, by omega, by omega, by omega, by omega⟩

/-- no pair of squares is aligned both diagonally and orthogonally -/
theorem not_both_lines (s d : Sq) : ¬ (isBishopValid s d = true ∧ isRookValid s d = true) := by
  rintro ⟨hb, hr⟩
  obtain ⟨d1, h1, k, k1, k3⟩ := Line.bishop.valid_along hb
  obtain ⟨d2, h2, j, j1, j3⟩ := Line.rook.valid_along hr
  have := along_dir_unique (Line.bishop.unit d1 h1) (Line.rook.unit d2 h2) k1 j1 k3 j3
  subst this
  revert h1 h2
  show d1 ∈ Spec.bishopDirs → d1 ∈ Spec.rookDirs → False
  have : ∀ d ∈ Spec.bishopDirs, d ∉ Spec.rookDirs := by decide
  exact fun a b => this d1 a b

theorem rookAttack_has (t s : Sq) (occ : BB) :
    (rookAttack t occ).has s = (isRookValid s t && (rookStrict s t &&& occ).isEmpty) :=
  Line.rook.attack_has t s occ

theorem bishopAttack_has (t s : Sq) (occ : BB) :
    (bishopAttack t occ).has s = (isBishopValid s t && (bishopStrict s t &&& occ).isEmpty) :=
  Line.bishop.attack_has t s occ

end Owl.Lemmas
