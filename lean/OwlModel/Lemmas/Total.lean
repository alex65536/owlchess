/-
C12 lemmas: what each modelled parser guarantees of its result. It never reaches a panic site (`Res.trap`), and a
value it returns has the shape the later stages rely on: one statement per parser (`Res.Ensures`), one walk through
its branches. The position-dependent readers follow, for boards with a king of each colour, with the facts that
separate the move kinds for the UCI reader's kind inference (C10).
-/
import OwlModel.Lemmas.Attacks
import OwlModel.Props.C20

namespace Owl

/-- `r` is not a panic, and its value, if it has one, satisfies `P` -/
def Res.Ensures {ε α : Type} (P : α → Prop) : Res ε α → Prop
  | .ok a => P a
  | .err _ => True
  | .trap _ => False

theorem Res.Ensures.no_trap {ε α : Type} {P : α → Prop} {r : Res ε α} (h : r.Ensures P) (w : String) :
    r ≠ .trap w := by
  intro e; rw [e] at h; exact h

theorem Res.Ensures.of_ok {ε α : Type} {P : α → Prop} {r : Res ε α} (h : r.Ensures P) {a : α} (e : r = .ok a) :
    P a := by
  rw [e] at h; exact h

/-- a branch on a condition: `split` on an `if` inside a parser body rewrites the whole body, this does not -/
theorem Res.Ensures.ite {ε α : Type} {P : α → Prop} {c : Prop} [Decidable c] {a b : Res ε α}
    (ha : c → a.Ensures P) (hb : ¬ c → b.Ensures P) : (if c then a else b).Ensures P :=
  iteInduction ha hb

theorem Res.Ensures.guard {ε α : Type} {P : α → Prop} {c : Prop} [Decidable c] {e : ε} {b : Res ε α}
    (hb : ¬ c → b.Ensures P) : (if c then .err e else b).Ensures P :=
  .ite (fun _ => trivial) hb

theorem Res.Ensures.mono {ε α : Type} {P Q : α → Prop} {r : Res ε α} (h : r.Ensures P)
    (hPQ : ∀ a, P a → Q a) : r.Ensures Q := by
  cases r <;> first | exact hPQ _ h | exact h

/-- a letter table `if c₁ then some q₁ else if c₂ then some q₂ else … none`: what holds of every entry holds of the
value read. `P` and `p` are explicit: they cannot be inferred before the whole chain is unified. -/
theorem ite_some_elim {α : Type} (P : α → Prop) (p : α) {c : Prop} [Decidable c] {q : α} {o : Option α}
    (hq : P q) (ho : o = some p → P p) : (if c then some q else o) = some p → P p :=
  iteInduction (motive := fun x => x = some p → P p) (fun _ h => by cases h; exact hq) fun _ => ho

end Owl

namespace Owl.Props.C08
open Owl Owl.Impl

/-- the stored en-passant mark (the square of the pawn that has just made a double step) lies on the rank where such a
pawn stands: rank 4 when black is to move, rank 5 when white is to move -/
def EpRankOk (r : RawBoard) : Prop := ∀ p, r.ep = some p → p.rank = epSrcRank r.side

instance (r : RawBoard) : Decidable (EpRankOk r) := by unfold EpRankOk; infer_instance

/-- well-formedness of a raw board for FEN purposes: exactly what `parseFen` guarantees of its results -/
structure FenWf (r : RawBoard) : Prop where
  ep : EpRankOk r
  mc : r.mc ≤ 65535
  mn : r.mn ≤ 65535

end Owl.Props.C08

namespace Owl.Props.C12
open Owl Owl.Impl

/-- the promotion pieces the UCI parser can produce -/
def UciShape : UciMove → Prop
  | .null => True
  | .move _ _ p => p = none ∨ p = some .knight ∨ p = some .bishop ∨ p = some .rook ∨ p = some .queen

end Owl.Props.C12

namespace Owl.Lemmas
open Owl Owl.Impl Owl.Props

/-- the loop state of `parse_cells`; `file = 8` is the state at the end of a rank, before its `/` -/
def CellsInv (file rank pos : Nat) : Prop := pos = 8 * rank + file ∧ file ≤ 8 ∧ rank ≤ 7

theorem parseCellsLoop_inv : ∀ (bs : Bytes) (file rank pos : Nat) (cells : Tab 64 Cell), CellsInv file rank pos →
    (parseCellsLoop bs file rank pos cells).Ensures fun st => CellsInv st.1 st.2.1 st.2.2.1
  | [], file, rank, pos, cells, h => h
  | b :: rest, file, rank, pos, cells, ⟨hp, hf, hr⟩ => by
    -- `Rank::from_index(rank)` in the three error branches
    have hrank : ∀ {e : CellsErr} {w : String} {P : Nat × Nat × Nat × Tab 64 Cell → Prop},
        (if rank < 8 then .err e else .trap w : Res CellsErr _).Ensures P :=
      .guard fun h => absurd (by omega) h
    unfold parseCellsLoop
    refine .ite (fun hd => .ite (fun _ => hrank) fun ho => ?digit) fun _ =>
      .ite (fun _ => .ite (fun _ => hrank) fun hf8 => .guard fun hov => ?slash) fun _ =>
      .ite (fun _ => hrank) fun hf8 => ?cell
    case digit => exact parseCellsLoop_inv rest _ _ _ _ ⟨by omega, by omega, hr⟩
    case slash => exact parseCellsLoop_inv rest _ _ _ _ ⟨by omega, by omega, by omega⟩
    case cell =>
      split
      · trivial
      · have hpos : pos < 64 := by omega
        rw [dif_pos hpos]
        exact parseCellsLoop_inv rest _ _ _ _ ⟨by omega, by omega, hr⟩

/-- at the end of the text the invariant decides the three `assert_eq!` -/
theorem parseCells_post (s : Bytes) : (parseCells s).Ensures fun _ => True := by
  have h := parseCellsLoop_inv s 0 0 0 (Tab.fill Cell.empty) ⟨rfl, by omega, by omega⟩
  unfold parseCells
  split
  · trivial
  · exact absurd ‹_› (h.no_trap _)
  · rename_i f r p c hl
    obtain ⟨hp, hf, hr⟩ : CellsInv f r p := h.of_ok hl
    exact .ite (fun _ => .guard fun h' => absurd (by omega) h') fun _ =>
      .guard fun _ => .ite (fun _ => trivial) fun h' => absurd (by omega) h'

theorem parseEpSource_rank (s : Bytes) (side : Color) (p : Sq) (h : parseEpSource s side = .ok (some p)) :
    p.rank = epSrcRank side := by
  unfold parseEpSource at h
  split at h
  · cases h
  · split at h
    · cases h
    · split at h
      · cases h
      · injection h with h; injection h with h; subst h; exact Sq.rank_mk _ _

theorem parseU16_le (s : Bytes) (v : Nat) : parseU16 s = some v → v ≤ 65535 := by
  have step : ∀ {c : Prop} [Decidable c] {a b : Option Nat}, (c → a = some v → v ≤ 65535) →
      (¬ c → b = some v → v ≤ 65535) → (if c then a else b) = some v → v ≤ 65535 :=
    fun ha hb => iteInduction (motive := fun x => x = some v → v ≤ 65535) ha hb
  unfold parseU16
  exact step (fun _ h => by cases h) fun _ => step (fun _ => step (fun hle h => by cases h; exact hle)
    fun _ h => by cases h) fun _ h => by cases h

/-- every leaf of `parseFen` is an error, the board field's result (never a panic), or a board whose mark and counters
come from `parseEpSource` and `parseU16` (or are the defaults 0 and 1) -/
theorem parseFen_post (s : Bytes) : (parseFen s).Ensures C08.FenWf := by
  unfold parseFen
  refine .guard fun _ => ?_
  dsimp only
  repeat' split
  all_goals first
    | trivial
    | exact absurd ‹_› ((parseCells_post _).no_trap _)
    | exact ⟨fun p hp => parseEpSource_rank _ _ p (by dsimp only at hp; subst hp; assumption),
        by first | exact parseU16_le _ _ ‹_› | exact Nat.le_of_ble_eq_true rfl,
        by first | exact parseU16_le _ _ ‹_› | exact Nat.le_of_ble_eq_true rfl⟩

theorem strGet_some (s t : Bytes) (a b : Nat) (h : strGet s a b = some t) : t = (s.drop a).take (b - a) := by
  unfold strGet at h
  split at h
  · exact (Option.some.inj h).symm
  · cases h

theorem uci_text_eq (s srcTxt dstTxt : Bytes) (src dst : Sq) (hsrc : strGet s 0 2 = some srcTxt)
    (hps : parseCoord srcTxt = .ok src) (hdst : strGet s 2 4 = some dstTxt) (hpd : parseCoord dstTxt = .ok dst) :
    s = fmtCoord src ++ fmtCoord dst ++ s.drop 4 := by
  have e1 := strGet_some _ _ _ _ hsrc
  have e2 := strGet_some _ _ _ _ hdst
  rw [(C20.coord_parse_exact _ _).mp hps] at e1
  rw [(C20.coord_parse_exact _ _).mp hpd] at e2
  rw [e1, e2, List.drop_zero, List.append_assoc]
  have : s.drop 4 = (s.drop 2).drop 2 := by rw [List.drop_drop]
  rw [this, List.take_append_drop, List.take_append_drop]

/-- the value has one of the promotion pieces the parser tests for, and the input is exactly its text: after the two
coordinates (`uci_text_eq`) nothing is left of a text of length 4, and the one tested letter of a text of length 5 -/
theorem parseUci_post (s : Bytes) : (parseUci s).Ensures fun u => C12.UciShape u ∧ s = fmtUci u := by
  unfold parseUci
  refine .ite (fun h0 => ⟨trivial, h0⟩) fun _ => .guard fun hlen => ?_
  split
  · trivial
  rename_i srcTxt hsrc
  split
  · trivial
  rename_i src hps
  split
  · trivial
  rename_i dstTxt hdst
  split
  · trivial
  rename_i dst hpd
  have hs := uci_text_eq s srcTxt dstTxt src dst hsrc hps hdst hpd
  simp only [Bool.or_eq_false_iff, decide_eq_false_iff_not, not_and, Bool.not_eq_eq_eq_not, Bool.not_true] at hlen
  refine .ite (fun h5 => ?_) fun h5 => ?_
  · have hd : s.drop 4 = [s.getD 4 0] := by
      rw [List.drop_eq_getElem_cons (by omega), List.drop_eq_nil_of_le (by omega)]
      simp [List.getD_eq_getElem?_getD, h5]
    rw [hd] at hs
    refine .ite (fun hb => ?_) fun _ => .ite (fun hb => ?_) fun _ => .ite (fun hb => ?_) fun _ =>
      .ite (fun hb => ?_) fun _ => trivial
    all_goals
      rw [hb] at hs
      exact ⟨by simp [C12.UciShape], hs⟩
  · have hd : s.drop 4 = [] := List.drop_eq_nil_of_le (by omega)
    rw [hd, List.append_nil] at hs
    exact ⟨by simp [C12.UciShape], by simpa [fmtUci] using hs⟩

theorem promoteKind_promote (p : Piece) (h : p = .knight ∨ p = .bishop ∨ p = .rook ∨ p = .queen) :
    (promoteKind p).promote = some p := by
  rcases h with h | h | h | h <;> subst h <;> rfl

theorem promote_kind_of (k : Kind) (p : Piece) (h : k.promote = some p) : promoteKind p = k := by
  cases k <;> simp [Kind.promote] at h <;> subst h <;> rfl

/-- a king step from the e-file home square reaches neither castling destination, so the reader may take e→g and
e→c for castling -/
theorem king_step_not_castle (c : Color) :
    (kingAttack (Sq.mk fileE (castlingRank c))).has (Sq.mk fileG (castlingRank c)) = false
    ∧ (kingAttack (Sq.mk fileE (castlingRank c))).has (Sq.mk fileC (castlingRank c)) = false := by
  cases c <;> decide +kernel

theorem isFileByte_some (b : Nat) (h : isFileByte b = true) : ∃ f, fileOfByte b = some f := by
  unfold isFileByte at h
  simp only [Bool.and_eq_true, decide_eq_true_eq] at h
  unfold fileOfByte
  exact ⟨⟨b - 97, by omega⟩, by simp [h]⟩

/-- what the SAN parser can produce: never a `Simple` record for a pawn -/
def _root_.Owl.Impl.SanData.ParserShape : SanData → Prop
  | .simple p _ _ _ _ => p ≠ .pawn
  | _ => True

end Owl.Lemmas

namespace Owl.Props.C09
open Owl Owl.Impl Owl.Props

/-- the promotion pieces `from_move` can write -/
def PromoPiece (p : Option Piece) : Prop :=
  p = none ∨ p = some .knight ∨ p = some .bishop ∨ p = some .rook ∨ p = some .queen

/-- what `san::Data::from_str` can really produce: the printable data plus the UCI form with a UCI-shaped move.
(`SanData.ParserShape` only records "never a `Simple` record for a pawn"; it says nothing on the promotion piece, so
it is too weak for the reparse statement — see `parserShape_not_enough` in Props/C09_styles.) -/
def Parsed : SanData → Prop
  | .uci u => C12.UciShape u
  | .castling _ => True
  | .pawnMove _ p => PromoPiece p
  | .pawnCapture _ _ p => PromoPiece p
  | .pawnCaptureShort _ _ p => PromoPiece p
  | .simple piece _ _ _ _ => piece ≠ .pawn

theorem parserShape_of_parsed (d : SanData) (h : Parsed d) : d.ParserShape := by
  cases d <;> first | trivial | exact h

end Owl.Props.C09

namespace Owl.Lemmas
open Owl Owl.Impl Owl.Props Owl.Props.C09

theorem pieceOfLetter_ne_pawn (b : Nat) (p : Piece) : pieceOfLetter b = some p → p ≠ .pawn := by
  have entry {c : Prop} [Decidable c] {q : Piece} {o : Option Piece} := @ite_some_elim _ (· ≠ .pawn) p c _ q o
  unfold pieceOfLetter
  exact entry (by decide) <| entry (by decide) <| entry (by decide) <| entry (by decide) <| entry (by decide)
    fun h => by cases h

theorem promoteOfLetter_promo (b : Nat) (p : Piece) : promoteOfLetter b = some p → PromoPiece (some p) := by
  have entry {c : Prop} [Decidable c] {q : Piece} {o : Option Piece} :=
    @ite_some_elim _ (fun p => PromoPiece (some p)) p c _ q o
  unfold promoteOfLetter
  exact entry (by simp [PromoPiece]) <| entry (by simp [PromoPiece]) <| entry (by simp [PromoPiece]) <|
    entry (by simp [PromoPiece]) fun h => by cases h

theorem stripPromote_promo (data : Bytes) : PromoPiece (stripPromote data).1 := by
  unfold stripPromote
  split
  · split
    · exact promoteOfLetter_promo _ _ ‹_›
    · exact Or.inl rfl
  · exact Or.inl rfl

/-- whatever the optional file, rank and capture marks are, the value is a `simple` record of the given piece -/
theorem parseSanPiece_post (data : Bytes) (piece : Piece) (rest : Bytes) (hp : piece ≠ .pawn) :
    (parseSanPiece data piece rest).Ensures Parsed := by
  unfold parseSanPiece
  refine .guard fun _ => ?_
  split
  · trivial
  · exact .guard fun _ => hp

/-- every pawn form carries the promotion piece it is given; the two `File::from_char` unwraps come after
`isFileByte` tests -/
theorem parseSanPawn_post (data : Bytes) (promote : Option Piece) (bytes : Bytes) (hp : PromoPiece promote) :
    (parseSanPawn data promote bytes).Ensures Parsed := by
  unfold parseSanPawn
  refine .guard fun _ => .ite (fun hc => ?short) fun _ => .guard fun _ => ?long
  case short =>
    simp only [Bool.and_eq_true, decide_eq_true_eq] at hc
    obtain ⟨f1, h1⟩ := isFileByte_some _ hc.1.2
    obtain ⟨f2, h2⟩ := isFileByte_some _ hc.2
    rw [h1, h2]
    exact hp
  case long =>
    split
    · trivial
    dsimp only
    split
    · exact hp
    · trivial
    · refine .guard fun hc => ?_
      simp only [Bool.or_eq_true, Bool.not_eq_true', not_or, Bool.not_eq_false] at hc
      obtain ⟨f, hf⟩ := isFileByte_some _ hc.1
      rw [hf]
      exact hp
    · trivial

theorem parseSanData_post (s : Bytes) : (parseSanData s).Ensures Parsed := by
  unfold parseSanData
  refine .ite (fun _ => trivial) fun _ => .ite (fun _ => trivial) fun _ => .guard fun hne => ?_
  split
  · exact absurd ‹parseUci s = .trap _› ((parseUci_post s).no_trap _)
  · exact ((parseUci_post s).of_ok ‹_›).1
  · split
    · simp at hne
    · split
      · exact parseSanPiece_post _ _ _ (pieceOfLetter_ne_pawn _ _ ‹_›)
      · exact parseSanPawn_post _ _ _ (stripPromote_promo _)

theorem parseSan_post (s : Bytes) : (parseSan s).Ensures fun sm => Parsed sm.data := by
  have h := parseSanData_post
  unfold parseSan
  dsimp only
  split
  · rename_i hd; exact (h _).of_ok hd
  · trivial
  · rename_i hd; exact absurd hd ((h _).no_trap _)

theorem validateMove_ok (b : Board) (mv : Move) :
    validateMove b mv = .ok () ↔ (isSemilegal b mv = true ∧ isLegalUnchecked? b mv = some true) := by
  unfold validateMove
  cases isSemilegal b mv
  · simp
  · rcases isLegalUnchecked? b mv with _ | _ | _ <;> simp

theorem validateMove_no_trap (b : Board) (hk : HasKings b) (mv : Move) (w : String) : validateMove b mv ≠ .trap w := by
  intro h
  unfold validateMove isLegalUnchecked? at h
  obtain ⟨ck, hck⟩ := mkChecker_some b hk .nil
  rw [hck] at h
  split at h
  · cases h
  · simp only [Option.map_some] at h
    split at h
    · rename_i he; cases he
    · cases h
    · cases h

theorem moveFromUci_no_trap (b : Board) (hk : HasKings b) (s : Bytes) (w : String) :
    moveFromUci s b ≠ .trap w ∧ moveFromUciSemilegal s b ≠ .trap w ∧ moveFromUciLegal s b ≠ .trap w := by
  have h1 : moveFromUci s b ≠ .trap w := by
    intro h
    unfold moveFromUci at h
    split at h
    · exact (parseUci_post _).no_trap _ ‹_›
    · cases h
    · split at h <;> cases h
  refine ⟨h1, ?_, ?_⟩
  · intro h
    unfold moveFromUciSemilegal at h
    split at h
    · split at h <;> cases h
    · rename_i r hr
      exact h1 (h ▸ rfl)
  · intro h
    unfold moveFromUciLegal at h
    split at h
    · split at h
      · cases h
      · cases h
      · exact validateMove_no_trap b hk _ _ ‹_›
    · exact h1 (h ▸ rfl)

theorem pawn_back_site : ∀ (dst : Sq) (side : Color), dst.rank ≠ promoteDstRank side.inv →
    (dst.add? (-(forwardDelta side))).isSome = true := by
  intro dst side; cases side <;> revert dst <;> decide

end Owl.Lemmas
