/-
C03: `make_move_unchecked` against `Spec.apply`, field by field.  The rights a move costs (`make_rHas`) and the squares
after it (`post_get`, `castle_get`) are known; `Spec.apply` says both in its own words (`spec_rHas`, `Spec.applyGet`),
and the two are compared right by right and square by square.
-/
import OwlModel.Lemmas.Attacks
import OwlModel.Lemmas.MakeShape
import OwlModel.Lemmas.SpecRead
import OwlModel.Lemmas.Coords

namespace Owl.Lemmas
open Owl Owl.Impl

/-- hypotheses of C03: a board with `Shape`, at most one king per colour, a well-formed semilegal move that does
not capture a king (true of every legal move of a valid position) -/
structure ApplyHyp (b : Board) (mv : Move) : Prop where
  shape : Shape b
  wf : mv.isWellFormed = true
  sl : isSemilegal b mv = true
  oneKing : ∀ c s t, b.get s = Cell.mk c .king → b.get t = Cell.mk c .king → s = t
  noKingCapture : ∀ c, b.get mv.dst ≠ Cell.mk c .king

/-- the rules drop a right when its king or rook moves or its rook is taken at home; as long as the right is backed by the
squares (`Shape`), that is when the move names one of its two home squares -/
theorem spec_rHas (b : Board) (mv : Move) (H : ApplyHyp b mv) (piece : Piece)
    (hcell : mv.cell = Cell.mk b.r.side piece) (cc : Color) (s : Side) :
    ((Spec.apply (abs b.r) ⟨mv.kind, ⟨b.r.side, piece⟩, mv.src, mv.dst⟩).rights).has cc s
      = (rHas b.r.castling cc s && !touches mv cc s) := by
  show (Spec.RightsSet.ofFn _).has cc s = _
  rw [Spec.RightsSet.has_ofFn]
  obtain ⟨-, hrk, hrq⟩ := home_squares cc
  have hrs : Spec.rookHome cc s = rookHomeSq cc s := by cases s <;> assumption
  have e : ∀ p : Piece, ((⟨b.r.side, piece⟩ : Spec.Man) == ⟨cc, p⟩) = (decide (b.r.side = cc) && decide (piece = p)) := by
    intro p; cases b.r.side <;> cases cc <;> cases piece <;> cases p <;> rfl
  simp only [hrs, get_abs_beq, abs_rights, abs_rights_has, e, touches, Bool.and_assoc]
  cases hr : rHas b.r.castling cc s
  · rfl
  obtain ⟨_, _, hsrc, _⟩ := (sl_iff b mv).mp ⟨H.wf, H.sl⟩
  obtain ⟨(hkh : b.get (kingHomeSq cc) = _), hrh⟩ := H.shape.rights cc s hr
  rw [hcell] at hsrc
  have nk := H.noKingCapture cc
  by_cases h1 : mv.src = kingHomeSq cc
  · obtain ⟨hc, hp⟩ := mk_inj (show Cell.mk b.r.side piece = Cell.mk cc .king by rw [← hsrc, h1, hkh])
    simp [h1, hc, hp]
  by_cases h2 : mv.src = rookHomeSq cc s
  · obtain ⟨hc, hp⟩ := mk_inj (show Cell.mk b.r.side piece = Cell.mk cc .rook by rw [← hsrc, h2]; exact hrh)
    simp [h2, hc, hp]
  have h3 : ¬ mv.dst = kingHomeSq cc := fun e => nk (by rw [e]; exact hkh)
  by_cases h4 : mv.dst = rookHomeSq cc s
  · simp [h4, hrh]
  -- nothing is touched: the mover is neither that king nor that rook from home
  have hnk : ¬ (b.r.side = cc ∧ piece = .king) := by
    rintro ⟨rfl, rfl⟩
    exact h1 (H.oneKing _ _ _ hsrc hkh)
  by_cases hc : b.r.side = cc <;> by_cases hp : piece = .king <;> simp_all

theorem apply_rights (b : Board) (mv : Move) (H : ApplyHyp b mv) (piece : Piece)
    (hcell : mv.cell = Cell.mk b.r.side piece) :
    (abs (makeMove b mv).1.r).rights = (Spec.apply (abs b.r) ⟨mv.kind, ⟨b.r.side, piece⟩, mv.src, mv.dst⟩).rights :=
  rightsSet_ext _ _ fun cc s => by
    rw [spec_rHas b mv H piece hcell, abs_rights, abs_rights_has, make_rHas b mv H.wf H.sl]

theorem apply_side_full_ep (b : Board) (mv : Move) (piece : Piece) :
    (abs (makeMove b mv).1.r).side = (Spec.apply (abs b.r) ⟨mv.kind, ⟨b.r.side, piece⟩, mv.src, mv.dst⟩).side
    ∧ (abs (makeMove b mv).1.r).full = (Spec.apply (abs b.r) ⟨mv.kind, ⟨b.r.side, piece⟩, mv.src, mv.dst⟩).full
    ∧ (abs (makeMove b mv).1.r).ep = (Spec.apply (abs b.r) ⟨mv.kind, ⟨b.r.side, piece⟩, mv.src, mv.dst⟩).ep := by
  refine ⟨?_, ?_, ?_⟩
  · rw [abs_side, make_side]; rfl
  · rw [abs_full, make_mn]
    show _ = (if b.r.side = Color.black then min ((abs b.r).full + 1) 65535 else (abs b.r).full)
    rw [abs_full, satInc_eq]
  · rw [abs_ep, make_ep]; rfl

/-- a relocation, as the rules see it -/
theorem absCell_relocate (g : Sq → Cell) (s d : Sq) (x : Cell) (t : Sq) :
    absCell (relocate g s d x t) = if t = d then absCell x else if t = s then none else absCell (g t) := by
  unfold relocate
  split
  · rfl
  · split
    · exact absCell_empty
    · rfl

/-- the squares after a move that is not castling are those the rules prescribe -/
theorem apply_get_noncastle (b : Board) (mv : Move) (hn : NonCastle mv) (p : Piece)
    (hcell : mv.cell = Cell.mk b.r.side p) (hp : mv.kind ≠ .simple → p = .pawn)
    (hv : mv.kind = .ep → ∃ q, b.r.ep = some q ∧ addU mv.dst (-(forwardDelta b.r.side)) = q ∧ q ≠ mv.src ∧ q ≠ mv.dst)
    (t : Sq) :
    absCell ((makeMove b mv).1.get t) = Spec.applyGet (abs b.r) ⟨mv.kind, ⟨b.r.side, p⟩, mv.src, mv.dst⟩ t := by
  rw [post_get b mv hn]
  obtain ⟨k, x, s, d⟩ := mv
  obtain ⟨h0, h1, h2⟩ := hn
  simp only at hcell hp hv h0 h1 h2 ⊢
  subst hcell
  unfold Spec.applyGet newCell
  by_cases hk : k = .ep
  · subst hk
    obtain ⟨q, hq, rfl, hqs, hqd⟩ := hv rfl
    obtain rfl := hp (by decide)
    by_cases e : addU d (-(forwardDelta b.r.side)) = t
    · subst e; simp [hqs, hqd, absCell_empty, abs_ep, hq]
    · simp [e, eq_comm (a := t), absCell_relocate, abs_ep, hq, Kind.promote, absCell_mk, get_abs, RawBoard.get, Board.get]
  · simp only [hk, false_and, if_false, absCell_relocate]
    cases k <;> first | exact absurd rfl h0 | exact absurd rfl h1 | exact absurd rfl h2 | exact absurd rfl hk | skip
    · simp only [Kind.promote, absCell_mk, get_abs, RawBoard.get]; rfl
    all_goals
      obtain rfl := hp (by decide)
      simp only [Kind.promote, absCell_mk, get_abs, RawBoard.get]; rfl

/-- two relocations between four different squares, read in the order the rules use -/
theorem absCell_castle (g : Sq → Cell) (c : Color) {K0 K1 R0 R1 : Sq} (n2 : K0 ≠ R0) (n3 : K0 ≠ R1)
    (n4 : K1 ≠ R0) (n5 : K1 ≠ R1) (n6 : R0 ≠ R1) (t : Sq) :
    absCell (relocate (relocate g K0 K1 (Cell.mk c .king)) R0 R1 (Cell.mk c .rook) t)
      = if t = K1 then some ⟨c, .king⟩ else if t = K0 then none else if t = R0 then none
        else if t = R1 then some ⟨c, .rook⟩ else absCell (g t) := by
  simp only [absCell_relocate, absCell_mk]
  by_cases e1 : t = R1
  · subst e1; simp [n5.symm, n3.symm, n6.symm]
  by_cases e2 : t = R0
  · subst e2; simp [n4.symm, n2.symm, e1]
  simp [e1, e2]

/-- … and so are the squares after castling -/
theorem apply_get_castle (b : Board) (mv : Move) (sd : Side) (hk : mv.kind = castleKind sd)
    (hs : mv.src = kingHomeSq b.r.side) (hd : mv.dst = kingTo b.r.side sd) (t : Sq) :
    absCell ((makeMove b mv).1.get t) = Spec.applyGet (abs b.r) ⟨mv.kind, ⟨b.r.side, .king⟩, mv.src, mv.dst⟩ t := by
  obtain ⟨-, n2, n3, n4, n5, n6⟩ := castle_ne b.r.side sd
  rw [castle_get b mv sd hk, hk, hs, hd, absCell_castle _ _ n2 n3 n4 n5 n6]
  unfold Spec.applyGet
  cases sd <;> simp only [castleKind, kingHomeSq, kingTo, rookHomeSq, rookTo, Kind.promote, sqOf_eq, get_abs] <;> rfl

theorem halfClock_eq (b : Board) (k : Kind) (p : Piece) (s d : Sq)
    (h : p = .pawn ∨ (Spec.capturedSq (abs b.r) ⟨k, ⟨b.r.side, p⟩, s, d⟩).isSome = decide (b.get d ≠ Cell.empty)) :
    (if b.get d ≠ Cell.empty || Cell.mk b.r.side p = Cell.mk b.r.side .pawn then 0 else satInc b.r.mc)
      = (Spec.apply (abs b.r) ⟨k, ⟨b.r.side, p⟩, s, d⟩).half := by
  show _ = (if (p = Piece.pawn ∨ (Spec.capturedSq (abs b.r) ⟨k, ⟨b.r.side, p⟩, s, d⟩).isSome = true)
    then 0 else min ((abs b.r).half + 1) 65535)
  rw [abs_half, satInc_eq]
  rcases h with rfl | h
  · simp
  · have hm : (Cell.mk b.r.side p = Cell.mk b.r.side .pawn) = (p = .pawn) :=
      propext ⟨fun e => (mk_inj e).2, fun e => e ▸ rfl⟩
    rw [h]; by_cases hd : b.get d = Cell.empty <;> by_cases hp : p = .pawn <;> simp [hd, hp, hm]

theorem capturedSq_isSome (b : Board) (d : Sq) :
    (if ((abs b.r).get d).isSome then some d else none : Option Sq).isSome = decide (b.get d ≠ Cell.empty) := by
  rw [get_abs, isSome_absCell]
  by_cases h : b.r.get d = Cell.empty <;> simp [h, Board.get]

/-- C03: the raw position after `make_move_unchecked` is the position the rules prescribe -/
theorem make_refines_apply (b : Board) (mv : Move) (H : ApplyHyp b mv) :
    ∃ sm, absMove mv = some sm ∧ abs (makeMove b mv).1.r = Spec.apply (abs b.r) sm := by
  obtain ⟨p, hcell, -, -, -, h⟩ := (sl_iff b mv).mp ⟨H.wf, H.sl⟩
  obtain ⟨-, hkp, hkc, -⟩ := h.kinds
  have ok := makeOk_of_semilegal b mv H.shape H.wf H.sl
  refine ⟨⟨mv.kind, ⟨b.r.side, p⟩, mv.src, mv.dst⟩, by unfold absMove; rw [hcell, absCell_mk]; rfl, ?_⟩
  obtain ⟨hs, hf, he⟩ := apply_side_full_ep b mv p
  refine pos_ext_get (fun t => ?_) hs (apply_rights b mv H p hcell) he ?_ hf
  · rw [get_abs, Spec.apply_get]
    by_cases hc : ∃ sd, mv.kind = castleKind sd
    · obtain ⟨sd, hk⟩ := hc
      obtain ⟨e1, e2, -⟩ := castle_semi b mv H.wf H.sl sd hk
      obtain rfl := hkc (by cases sd <;> simp [hk, castleKind])
      exact apply_get_castle b mv sd hk e1 e2 t
    · have hn := nonCastle_of b mv H.sl fun sd h => hc ⟨sd, h⟩
      refine apply_get_noncastle b mv hn p hcell (fun hk => Classical.byContradiction fun hp => ?_) (fun hk => ?_) t
      · rcases hkp hp with e | e | e
        · exact hk e
        · exact hn.2.1 e
        · exact hn.2.2 e
      · obtain ⟨q, hq, hv⟩ := ep_victim b mv H.shape H.wf H.sl hk
        exact ⟨q, hq, hv, hv ▸ (ok.ep hk).2⟩
  · rw [abs_half, make_mc, hcell]
    refine halfClock_eq b _ _ _ _ ?_
    by_cases hp : p = .pawn
    · exact .inl hp
    · right
      rcases hkp hp with e | e | e
      · simp only [e]; exact capturedSq_isSome b mv.dst
      · obtain ⟨-, e2, -⟩ := castle_semi b mv H.wf H.sl .king e
        simp [Spec.capturedSq, e, e2, (ok.castle .king e).2.2.1]
      · obtain ⟨-, e2, -⟩ := castle_semi b mv H.wf H.sl .queen e
        simp [Spec.capturedSq, e, e2, (ok.castle .queen e).2.2.1]

end Owl.Lemmas
