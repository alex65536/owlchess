/-
`Valid b`: the board passes the validation gate unchanged (`valid_iff_validate`).
`valid_make`: a well-formed, semilegal move that `is_legal_unchecked` accepts leads from a valid board to a valid
board — so everything reachable through the checked API stays inside the gate's conditions (C02, C13).
-/
import OwlModel.Lemmas.Apply
import OwlModel.Lemmas.Capture
import OwlModel.Lemmas.Checker
import OwlModel.Lemmas.Validate

namespace Owl.Lemmas
open Owl Owl.Impl

/-- relocating one member of a set of squares keeps its size -/
theorem count_move (p p' : Sq → Bool) (s d : Sq) (hs : p s = true) (hd : p d = false) (hs' : p' s = false)
    (hd' : p' d = true) (hoth : ∀ x, x ≠ s → x ≠ d → p' x = p x) :
    (Sq.all.filter p').length = (Sq.all.filter p).length := by
  have hsd : s ≠ d := by intro e; rw [e, hd] at hs; cases hs
  have h1 : Sq.all.Perm (s :: Sq.all.erase s) := List.perm_cons_erase (List.mem_finRange s)
  have hdm : d ∈ Sq.all.erase s := (sq_all_nodup.mem_erase_iff).mpr ⟨fun e => hsd e.symm, List.mem_finRange d⟩
  have h2 : (Sq.all.erase s).Perm (d :: (Sq.all.erase s).erase d) := List.perm_cons_erase hdm
  have hperm : Sq.all.Perm (s :: d :: (Sq.all.erase s).erase d) := h1.trans (List.Perm.cons s h2)
  rw [← List.countP_eq_length_filter, ← List.countP_eq_length_filter, hperm.countP_eq, hperm.countP_eq]
  simp only [List.countP_cons, hs, hd, hs', hd', if_true, Bool.false_eq_true, if_false]
  have : List.countP p' ((Sq.all.erase s).erase d) = List.countP p ((Sq.all.erase s).erase d) := by
    apply List.countP_congr
    intro x hx
    have hx1 := ((sq_all_nodup.erase s).mem_erase_iff).mp hx
    have hx2 := (sq_all_nodup.mem_erase_iff).mp hx1.2
    rw [hoth x hx2.1 hx1.1]
  omega

theorem count_le (p p' : Sq → Bool) (h : ∀ x, p' x = true → p x = true) :
    (Sq.all.filter p').length ≤ (Sq.all.filter p).length := by
  rw [← List.countP_eq_length_filter, ← List.countP_eq_length_filter]
  exact List.countP_mono_left (fun x _ => h x)

theorem count_one_iff (p : Sq → Bool) :
    (Sq.all.filter p).length = 1 ↔ ∃ k, p k = true ∧ ∀ t, p t = true → t = k := by
  constructor
  · intro h
    obtain ⟨k, hk⟩ := List.length_eq_one_iff.mp h
    have hm : k ∈ Sq.all.filter p := by rw [hk]; simp
    refine ⟨k, (List.mem_filter.mp hm).2, ?_⟩
    intro t ht
    have : t ∈ Sq.all.filter p := List.mem_filter.mpr ⟨List.mem_finRange t, ht⟩
    rw [hk] at this
    simpa using this
  · intro ⟨k, hk, hu⟩
    have h1 : Sq.all.Perm (k :: Sq.all.erase k) := List.perm_cons_erase (List.mem_finRange k)
    rw [← List.countP_eq_length_filter, h1.countP_eq]
    simp only [List.countP_cons, hk, if_true]
    have : List.countP p (Sq.all.erase k) = 0 := by
      rw [List.countP_eq_zero]
      intro a ha hpa
      have := (sq_all_nodup.mem_erase_iff).mp ha
      exact this.1 (hu a hpa)
    omega

def colorCount (b : Board) (c : Color) : Nat := (Sq.all.filter fun t => decide ((b.get t).color = some c)).length

/-- the conditions the validation gate checks, on the squares -/
structure Checks (b : Board) : Prop where
  wlen : colorCount b .white ≤ 16
  blen : colorCount b .black ≤ 16
  king : ∀ c, ∃ k, b.get k = Cell.mk c .king ∧ ∀ t, b.get t = Cell.mk c .king → t = k
  pawns : ∀ t c, b.get t = Cell.mk c .pawn → t.rank.val ≠ 0 ∧ t.rank.val ≠ 7
  safe : ∀ k, b.get k = Cell.mk b.r.side.inv .king → isCellAttacked b k b.r.side = false

/-- the gate's conditions on the squares alone -/
structure CellsOk (g : Sq → Cell) : Prop where
  len : ∀ c, (Sq.all.filter fun t => decide ((g t).color = some c)).length ≤ 16
  king : ∀ c, ∃ k, g k = Cell.mk c .king ∧ ∀ t, g t = Cell.mk c .king → t = k
  pawns : ∀ t c, g t = Cell.mk c .pawn → t.rank.val ≠ 0 ∧ t.rank.val ≠ 7

theorem Checks.cells {b : Board} (h : Checks b) : CellsOk b.get :=
  ⟨fun c => by cases c; exact h.wlen; exact h.blen, h.king, h.pawns⟩

theorem checks_of_cells {b : Board} (h : CellsOk b.get)
    (hsafe : ∀ k, b.get k = Cell.mk b.r.side.inv .king → isCellAttacked b k b.r.side = false) : Checks b :=
  ⟨h.len .white, h.len .black, h.king, h.pawns, hsafe⟩

theorem CellsOk.king_eq {g : Sq → Cell} (h : CellsOk g) {c : Color} {k t : Sq} (hk : g k = Cell.mk c .king)
    (ht : g t = Cell.mk c .king) : t = k := by
  obtain ⟨k0, _, hu⟩ := h.king c
  exact (hu t ht).trans (hu k hk).symm

theorem Checks.king_eq {b : Board} (h : Checks b) {c : Color} {k t : Sq} (hk : b.get k = Cell.mk c .king)
    (ht : b.get t = Cell.mk c .king) : t = k := h.cells.king_eq hk ht

theorem color_len (b : Board) (hb : Consistent b) (c : Color) : (b.color c).len = colorCount b c :=
  congrArg (fun p => (Sq.all.filter p).length) (funext (color_has b hb c))

theorem king_len (b : Board) (hb : Consistent b) (c : Color) :
    (b.piece2 c .king).len = (Sq.all.filter fun t => decide (b.get t = Cell.mk c .king)).length :=
  congrArg (fun p => (Sq.all.filter p).length) (funext (piece2_has b hb c .king))

theorem rank07 (s : Sq) : (decide (Spec.rank s = 0) || decide (Spec.rank s = 7)) = (decide (s.rank.val = 0) || decide (s.rank.val = 7)) :=
  rfl

theorem kingPos_of (b : Board) (hb : Consistent b) (c : Color) (k : Sq) (hk : b.get k = Cell.mk c .king)
    (hu : ∀ t, b.get t = Cell.mk c .king → t = k) : b.kingPos? c = some k := by
  cases h : b.kingPos? c with
  | none =>
    unfold Board.kingPos? at h
    rw [first?_none] at h
    have := h k
    rw [piece2_has b hb, hk] at this
    simp at this
  | some k' =>
    have hk' := first?_some _ _ h
    rw [piece2_has b hb] at hk'
    rw [hu k' (by simpa using hk')]

theorem checkBoard_iff (b : Board) (hb : Consistent b) : checkBoard b = .ok b ↔ Checks b := by
  have hpawn : ∀ t, (((b.piece2 .white .pawn ||| b.piece2 .black .pawn) &&& BB.ofNat Gen.badPawnPoses).has t = false)
      ↔ ((b.get t = Cell.mk .white .pawn ∨ b.get t = Cell.mk .black .pawn) → t.rank.val ≠ 0 ∧ t.rank.val ≠ 7) := by
    intro t
    rw [BB.has_and, BB.has_or, piece2_has b hb, piece2_has b hb, bad_mask, rank07]
    by_cases h1 : b.get t = Cell.mk .white .pawn <;> by_cases h2 : b.get t = Cell.mk .black .pawn <;>
      by_cases h3 : t.rank.val = 0 <;> by_cases h4 : t.rank.val = 7 <;> simp [h1, h2, h3, h4]
  have hkone : ∀ c, (b.piece2 c .king).len = 1 ↔
      ∃ k, b.get k = Cell.mk c .king ∧ ∀ t, b.get t = Cell.mk c .king → t = k := by
    intro c
    rw [king_len b hb, count_one_iff]
    simp only [decide_eq_true_eq]
  -- the attack test finds the one king of the side that has moved
  have hopp : (∀ c, ∃ k, b.get k = Cell.mk c .king ∧ ∀ t, b.get t = Cell.mk c .king → t = k) → ∀ v,
      isOpponentKingAttacked? b = some v ↔ ∀ k, b.get k = Cell.mk b.r.side.inv .king → isCellAttacked b k b.r.side = v := by
    intro hkings v
    obtain ⟨k0, hk0, hu⟩ := hkings b.r.side.inv
    have hkp := kingPos_of b hb _ k0 hk0 hu
    unfold isOpponentKingAttacked?
    simp only [hkp, Option.some.injEq]
    exact ⟨fun h k hk => by rw [hu k hk]; exact h, fun h => h k0 hk0⟩
  rw [checkBoard_ok_iff]
  constructor
  · intro ⟨h1, h2, h3, h4⟩
    have hkings := fun c => (hkone c).mp (h2 c)
    exact checks_of_cells ⟨fun c => Nat.le_trans (Nat.le_of_eq (color_len b hb c).symm) (h1 c), hkings,
      fun t c hc => (hpawn t).mp (h3 t) (by cases c; exact .inl hc; exact .inr hc)⟩ ((hopp hkings false).mp h4)
  · intro hc
    exact ⟨fun c => Nat.le_trans (Nat.le_of_eq (color_len b hb c)) (hc.cells.len c), fun c => (hkone c).mpr (hc.king c),
      fun s => (hpawn s).mpr fun h => h.elim (hc.pawns s _) (hc.pawns s _), (hopp hc.king false).mpr hc.safe⟩

/-- a board that passes the validation gate unchanged -/
structure Valid (b : Board) : Prop where
  shape : Shape b
  checks : Checks b

/-- on a board in the gate's normal form the gate is its checks -/
theorem validate_shaped (b : Board) (hs : Shape b) : validate b.r = checkBoard b := by
  unfold validate
  rw [normaliseEp_fix b.r hs.ep]
  simp only
  rw [normaliseCastling_fix b.r hs.rights]
  exact congrArg checkBoard hs.cons.symm

theorem valid_iff_validate (b : Board) : Valid b ↔ validate b.r = .ok b := by
  constructor
  · intro ⟨hs, hc⟩
    rw [validate_shaped b hs]
    exact (checkBoard_iff b hs.cons).mpr hc
  · intro h
    have hs := validate_shape b.r b h
    rw [validate_shaped b hs] at h
    exact ⟨hs, (checkBoard_iff b hs.cons).mp h⟩

theorem valid_hasKings (b : Board) (hv : Valid b) : HasKings b := by
  intro c
  obtain ⟨k, hk, hu⟩ := hv.checks.king c
  rw [kingPos_of b hv.shape.cons c k hk hu]; rfl

/-- the man on the destination after a non-castling move: of the mover's colour, a king iff the move is the king's, a
pawn only off the first and last rank -/
theorem newCell_facts (b : Board) (mv : Move) (hwf : mv.isWellFormed = true) (hsl : isSemilegal b mv = true)
    (hn : NonCastle mv) :
    ∃ q, newCell mv b.r.side = Cell.mk b.r.side q ∧ (q = .king ↔ mv.cell = Cell.mk b.r.side .king)
      ∧ (q = .pawn → mv.dst.rank.val ≠ 0 ∧ mv.dst.rank.val ≠ 7) := by
  revert hn
  apply sl_cases b ?_ mv hwf hsl
  intro k p s d _ _ _ hS hn
  have king_iff : ∀ q : Piece, q = .king ↔ Cell.mk b.r.side q = Cell.mk b.r.side .king :=
    fun q => ⟨fun e => e ▸ rfl, fun e => (mk_inj e).2⟩
  cases hS with
  | piece hg => exact ⟨p, rfl, king_iff p, fun e => by subst e; cases hg⟩
  | pawn _ _ d0 d7 => exact ⟨.pawn, rfl, king_iff _, fun _ => ⟨d0, d7⟩⟩
  | promo hk =>
    cases k <;> simp [Kind.promote] at hk
    all_goals exact ⟨_, rfl, ⟨fun e => (by cases e), fun e => absurd (mk_inj e).2 (by decide)⟩, fun e => (by cases e)⟩
  | double _ _ hd => exact ⟨.pawn, rfl, king_iff _, fun _ => by rw [hd]; cases b.r.side <;> decide⟩
  | ep _ _ hd => exact ⟨.pawn, rfl, king_iff _, fun _ => by rw [hd]; cases b.r.side <;> decide⟩
  | castleK => exact absurd rfl hn.2.1
  | castleQ => exact absurd rfl hn.2.2

/-- on a valid board no semilegal move captures a king: that king would be in check with its side not to move -/
theorem valid_no_king_capture (b : Board) (hv : Valid b) (mv : Move) (hwf : mv.isWellFormed = true)
    (hsl : isSemilegal b mv = true) (c : Color) : b.get mv.dst ≠ Cell.mk c .king := by
  intro hking
  obtain ⟨_, _, _, hdst⟩ := semilegal_base b mv hsl
  have hc : c = b.r.side.inv := by
    rw [hking, color_mk] at hdst
    cases c <;> cases hsd : b.r.side <;> simp_all [Color.inv]
  subst hc
  have hatt := semilegal_capture_attacks b mv hv.shape hwf hsl (by rw [hking]; exact mk_ne_zero _ _)
  rw [hv.checks.safe mv.dst hking] at hatt
  cases hatt

theorem applyHyp_of_valid (b : Board) (mv : Move) (hv : Valid b) (hwf : mv.isWellFormed = true)
    (hsl : isSemilegal b mv = true) : ApplyHyp b mv where
  shape := hv.shape
  wf := hwf
  sl := hsl
  oneKing := fun _ _ _ hs ht => hv.checks.king_eq ht hs
  noKingCapture := valid_no_king_capture b hv mv hwf hsl

theorem legal_unfold (b : Board) (hb : Consistent b) (mv : Move) (k : Sq) (hk : b.get k = Cell.mk b.r.side .king)
    (hu : ∀ t, b.get t = Cell.mk b.r.side .king → t = k) :
    isLegalUnchecked? b mv = some (Checker.isLegal ⟨b, .nil, b.r.side.inv, k⟩ mv) := by
  unfold isLegalUnchecked? mkChecker?
  rw [kingPos_of b hb _ k hk hu]
  rfl

/-! ### the counting conditions under the edits a move makes

A move relocates one man (two when castling) and may remove one more (en passant); each of the two edits keeps the
conditions the gate counts on the squares. -/

/-- A man of colour `c` goes to a square that holds no man of that colour and no king, stays of colour `c`, is a king
afterwards iff it was one, and is a pawn afterwards only off the first and last rank: the conditions survive, and the
king of colour `c` is where it went. -/
theorem cellsOk_relocate {g : Sq → Cell} (h : CellsOk g) (c : Color) (s d : Sq) (x : Cell)
    (hs : (g s).color = some c) (hd : (g d).color ≠ some c) (hx : x.color = some c)
    (hnk : ∀ cc, g d ≠ Cell.mk cc .king)
    (hk1 : x = Cell.mk c .king → g s = Cell.mk c .king) (hk2 : g s = Cell.mk c .king → x = Cell.mk c .king)
    (hp : x = Cell.mk c .pawn → d.rank.val ≠ 0 ∧ d.rank.val ≠ 7) (k : Sq) (hk : g k = Cell.mk c .king) :
    CellsOk (relocate g s d x) ∧ relocate g s d x (if s = k then d else k) = Cell.mk c .king := by
  have hsd : s ≠ d := by rintro rfl; exact hd hs
  have hci : ¬ c = c.inv := fun e => Color.inv_ne c e.symm
  have hkd : k ≠ d := by rintro rfl; rw [hk, color_mk] at hd; exact hd rfl
  have hk' : relocate g s d x (if s = k then d else k) = Cell.mk c .king := by
    by_cases e : s = k
    · rw [if_pos e, relocate_dst]; exact hk2 (e ▸ hk)
    · rw [if_neg e, relocate_other _ _ hkd (Ne.symm e)]; exact hk
  refine ⟨⟨fun cc => ?_, fun cc => ?_, fun t cc ht => ?_⟩, hk'⟩
  · by_cases hcc : cc = c
    · subst hcc
      refine Nat.le_trans (Nat.le_of_eq ?_) (h.len cc)
      apply count_move _ _ s d
      · simp [hs]
      · simpa using hd
      · simp [relocate_src _ _ hsd, empty_color]
      · simp [relocate_dst, hx]
      · intro t h1 h2; simp [relocate_other _ _ h2 h1]
    · obtain rfl := inv_of_ne (Ne.symm hcc)
      refine Nat.le_trans (count_le (fun t => decide ((g t).color = some c.inv)) _ fun t ht => ?_) (h.len c.inv)
      simp only [decide_eq_true_eq] at ht ⊢
      rcases relocate_cases g s d x t with ⟨-, e⟩ | ⟨-, -, e⟩ | ⟨-, -, e⟩ <;> rw [e] at ht
      · rw [hx] at ht; exact absurd (Option.some.inj ht) hci
      · rw [empty_color] at ht; cases ht
      · exact ht
  · by_cases hcc : cc = c
    · subst hcc
      refine ⟨_, hk', fun t ht => ?_⟩
      rcases relocate_cases g s d x t with ⟨e1, e⟩ | ⟨-, -, e⟩ | ⟨-, e2, e⟩ <;> rw [e] at ht
      · rw [if_pos (h.king_eq hk (hk1 ht)), e1]
      · exact absurd ht.symm (mk_ne_empty _ _)
      · have := h.king_eq hk ht
        rw [if_neg (fun e : s = k => e2 (this.trans e.symm)), this]
    · obtain rfl := inv_of_ne (Ne.symm hcc)
      obtain ⟨ko, hko, hkou⟩ := h.king c.inv
      have n1 : ko ≠ d := by rintro rfl; exact hnk _ hko
      have n2 : ko ≠ s := by
        rintro rfl; rw [hko, color_mk] at hs; exact hci (Option.some.inj hs).symm
      refine ⟨ko, (relocate_other _ _ n1 n2).trans hko, fun t ht => ?_⟩
      rcases relocate_cases g s d x t with ⟨-, e⟩ | ⟨-, -, e⟩ | ⟨-, -, e⟩ <;> rw [e] at ht
      · rw [ht, color_mk] at hx; exact absurd (Option.some.inj hx).symm hci
      · exact absurd ht.symm (mk_ne_empty _ _)
      · exact hkou t ht
  · rcases relocate_cases g s d x t with ⟨e1, e⟩ | ⟨-, -, e⟩ | ⟨-, -, e⟩ <;> rw [e] at ht
    · obtain rfl : cc = c := by rw [ht, color_mk] at hx; exact Option.some.inj hx
      rw [e1]; exact hp ht
    · exact absurd ht.symm (mk_ne_empty _ _)
    · exact h.pawns t cc ht

/-- a man that is not a king is taken off the board (when `P` holds) -/
theorem cellsOk_erase {g : Sq → Cell} (h : CellsOk g) (P : Prop) [Decidable P] (v : Sq)
    (hv : P → ∀ c, g v ≠ Cell.mk c .king) : CellsOk fun t => if P ∧ v = t then Cell.empty else g t := by
  refine ⟨fun c => ?_, fun c => ?_, fun t c ht => ?_⟩
  · refine Nat.le_trans (count_le (fun t => decide ((g t).color = some c)) _ fun t ht => ?_) (h.len c)
    simp only [decide_eq_true_eq] at ht ⊢
    split at ht
    · rw [empty_color] at ht; cases ht
    · exact ht
  · obtain ⟨k, hk, hku⟩ := h.king c
    refine ⟨k, ?_, fun t ht => ?_⟩
    · rw [if_neg (fun e : P ∧ v = k => hv e.1 c (e.2 ▸ hk))]; exact hk
    · split at ht
      · exact absurd ht.symm (mk_ne_empty _ _)
      · exact hku t ht
  · split at ht
    · exact absurd ht.symm (mk_ne_empty _ _)
    · exact h.pawns t c ht

/-- the squares after a non-castling move: the conditions survive and the mover's king is where it went -/
theorem cells_make_nc (b : Board) (mv : Move) (hv : Valid b) (hwf : mv.isWellFormed = true)
    (hsl : isSemilegal b mv = true) (hn : NonCastle mv) (k : Sq) (hk : b.get k = Cell.mk b.r.side .king) :
    CellsOk (makeMove b mv).1.get
      ∧ (makeMove b mv).1.get (if mv.src = k then mv.dst else k) = Cell.mk b.r.side .king := by
  have F := moveFacts b mv hv.shape hwf hsl
  obtain ⟨q, hq, hqk, hqp⟩ := newCell_facts b mv hwf hsl hn
  have hk1 : newCell mv b.r.side = Cell.mk b.r.side .king → b.get mv.src = Cell.mk b.r.side .king := by
    intro h; rw [F.src]; exact hqk.mp (mk_inj (hq.symm.trans h)).2
  have hk2 : b.get mv.src = Cell.mk b.r.side .king → newCell mv b.r.side = Cell.mk b.r.side .king := by
    intro h; rw [hq, hqk.mpr (F.src ▸ h)]
  have hp : newCell mv b.r.side = Cell.mk b.r.side .pawn → mv.dst.rank.val ≠ 0 ∧ mv.dst.rank.val ≠ 7 :=
    fun h => hqp (mk_inj (hq.symm.trans h)).2
  obtain ⟨h1, hking⟩ := cellsOk_relocate hv.checks.cells b.r.side mv.src mv.dst (newCell mv b.r.side)
    F.srcc F.dstc (newCell_color mv b.r.side F.col) (valid_no_king_capture b hv mv hwf hsl) hk1 hk2 hp k hk
  have hvict : mv.kind = .ep → relocate b.get mv.src mv.dst (newCell mv b.r.side)
      (addU mv.dst (-(forwardDelta b.r.side))) = Cell.mk b.r.side.inv .pawn :=
    fun he => (relocate_other _ _ (Ne.symm (F.vd he)) (Ne.symm (F.vs he))).trans (F.vp he)
  have h2 := cellsOk_erase h1 (mv.kind = .ep) (addU mv.dst (-(forwardDelta b.r.side)))
    (fun he cc e => by rw [hvict he] at e; exact absurd (mk_inj e).2 (by decide))
  rw [post_get b mv hn]
  refine ⟨h2, ?_⟩
  show (if _ then _ else _) = _
  rw [if_neg (fun he => by rw [← he.2, hvict he.1] at hking; exact absurd (mk_inj hking).2 (by decide))]
  exact hking

/-- the squares after castling: two relocations -/
theorem cells_castle (b b' : Board) (c : Color) (K0 K1 R0 R1 : Sq) (hc : CellsOk b.get)
    (CF : CastleFacts b b' c K0 K1 R0 R1) : CellsOk b'.get ∧ b'.get K1 = Cell.mk c .king := by
  obtain ⟨gR0, gR1⟩ := CF.rook
  obtain ⟨n1, n2, n3, n4, n5, n6, bK0, bR0, bK1, bR1, hG⟩ := CF
  obtain ⟨h1, hk1⟩ := cellsOk_relocate hc c K0 K1 (Cell.mk c .king) (by rw [bK0, color_mk])
    (by rw [bK1, empty_color]; simp) (color_mk _ _) (fun cc => by rw [bK1]; exact (mk_ne_empty _ _).symm)
    (fun _ => bK0) (fun _ => rfl) (fun h => absurd (mk_inj h).2 (by decide)) K0 bK0
  rw [if_pos rfl] at hk1
  obtain ⟨h2, hk2⟩ := cellsOk_relocate h1 c R0 R1 (Cell.mk c .rook) (by rw [gR0, color_mk])
    (by rw [gR1, empty_color]; simp) (color_mk _ _) (fun cc => by rw [gR1]; exact (mk_ne_empty _ _).symm)
    (fun h => absurd (mk_inj h).2 (by decide)) (fun h => by rw [gR0] at h; exact absurd (mk_inj h).2 (by decide))
    (fun h => absurd (mk_inj h).2 (by decide)) K1 hk1
  rw [if_neg n4.symm] at hk2
  rw [hG]
  exact ⟨h2, hk2⟩

/-- On a valid board, for a well-formed semilegal move: `king_pos` finds the mover's king in the position after the
move, `is_legal_unchecked` says that it is not attacked there, and if it is not, that position is valid again. -/
theorem legal_valid (b : Board) (mv : Move) (hv : Valid b) (hwf : mv.isWellFormed = true)
    (hsl : isSemilegal b mv = true) :
    ∃ k', (makeMove b mv).1.kingPos? b.r.side = some k'
      ∧ isLegalUnchecked? b mv = some (!isCellAttacked (makeMove b mv).1 k' b.r.side.inv)
      ∧ (isCellAttacked (makeMove b mv).1 k' b.r.side.inv = false → Valid (makeMove b mv).1) := by
  have hs := hv.shape
  have hshape' := make_shape b mv hs hwf hsl
  have ok := makeOk_of_semilegal b mv hs hwf hsl
  obtain ⟨k, hk, hku⟩ := hv.checks.king b.r.side
  have core : CellsOk (makeMove b mv).1.get
      ∧ (makeMove b mv).1.get (if mv.src = k then mv.dst else k) = Cell.mk b.r.side .king := by
    by_cases hc : ∃ sd, mv.kind = castleKind sd
    · obtain ⟨sd, hcs⟩ := hc
      obtain ⟨e1, e2, -⟩ := castle_semi b mv hwf hsl sd hcs
      have CF := castleFacts b mv sd hcs ok
      rw [if_pos (e1.trans (hku _ CF.bK0)), e2]
      exact cells_castle b _ b.r.side _ _ _ _ hv.checks.cells CF
    · exact cells_make_nc b mv hv hwf hsl (nonCastle_of b mv hsl fun sd h => hc ⟨sd, h⟩) k hk
  have huniq' : ∀ t, (makeMove b mv).1.get t = Cell.mk b.r.side .king → t = (if mv.src = k then mv.dst else k) :=
    fun _ => core.1.king_eq core.2
  refine ⟨_, kingPos_of _ hshape'.cons _ _ core.2 huniq', ?_,
    fun h => ⟨hshape', checks_of_cells core.1 fun k2 hk2 => ?_⟩⟩
  · rw [legal_unfold b hs.cons mv k hk hku, isLegal_nil b mv hs hwf hsl k hk hku]
  · rw [make_side, Color.inv_inv] at hk2
    rw [make_side, huniq' k2 hk2]
    exact h

/-- C02 core: a legal move leads from a position that passes the validation gate to another such position -/
theorem valid_make (b : Board) (mv : Move) (hv : Valid b) (hwf : mv.isWellFormed = true)
    (hsl : isSemilegal b mv = true) (hleg : isLegalUnchecked? b mv = some true) : Valid (makeMove b mv).1 := by
  obtain ⟨k', _, h, hvalid⟩ := legal_valid b mv hv hwf hsl
  rw [h] at hleg
  exact hvalid (by simpa using hleg)

end Owl.Lemmas
