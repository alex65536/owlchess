/-
A well-formed semilegal move onto an occupied square is an attack of that square by the mover; from this Lemmas/Valid.lean
gets that no move takes a king (`valid_no_king_capture`).
-/
import OwlModel.Lemmas.Attacks
import OwlModel.Lemmas.Shape
import OwlModel.Lemmas.Coords

namespace Owl.Lemmas
open Owl Owl.Impl

theorem pawn_step_attacks (c : Color) (s d : Sq) (hf : absDiff s.file.val d.file.val = 1) (hr : rankStep c s d) :
    (pawnAttack c.inv d).has s = true := by
  obtain ⟨_, _, hw, hb⟩ := near_check_sq d
  rw [(absDiff_iff _ _).1] at hf
  rw [rankStep_iff] at hr
  cases c <;>
    simp only [Color.inv, hw, hb, has_stepsOf, pawnSteps, List.any_cons, List.any_nil, Bool.or_false, Bool.or_eq_true,
      beq_iff_eq, step_iff, Spec.forward] at hr ⊢ <;> omega

/-- the attack in the other direction that a piece's `simple` move amounts to -/
theorem piece_sees (p : Piece) (s d : Sq) (all : BB) (hg : pieceGeom p s d = true) (hc : pieceClear p s d all = true) :
    (pieceAttack p d all).has s = true := by
  have hp : p ≠ .pawn := fun e => by rw [e] at hg; cases hg
  rw [pieceAttack_symm, pieceAttack_has p hp, hg, hc]; rfl

/-- a well-formed semilegal move onto an occupied square is an attack of that square by the mover -/
theorem semilegal_capture_attacks (b : Board) (mv : Move) (hs : Shape b) (hwf : mv.isWellFormed = true)
    (hsl : isSemilegal b mv = true) (hocc : b.get mv.dst ≠ Cell.empty) :
    isCellAttacked b mv.dst b.r.side = true := by
  revert hocc
  apply sl_cases b ?_ mv hwf hsl
  intro k p s d hsrc hdst hne h hocc
  have hb := hs.cons
  have hp2 : ∀ q, (b.piece2 b.r.side q).has s = decide (p = q) := by
    intro q
    rw [piece2_has b hb, hsrc]
    by_cases e : p = q
    · subst e; simp
    · have : ¬ Cell.mk b.r.side p = Cell.mk b.r.side q := fun h => e (mk_inj h).2
      simp [e, this]
  rw [isCellAttacked_eq, nonEmpty_iff]
  refine ⟨s, ?_⟩
  unfold cellAttackers Board.pieceDiag Board.pieceLine
  simp only [BB.has_or, BB.has_and, hp2]
  -- a pawn lands on an occupied square only diagonally
  have hpawn : ∀ {s d}, PawnTo b s d → b.get d ≠ Cell.empty → absDiff s.file.val d.file.val = 1 :=
    fun hto ho => (hto.resolve_left fun h => ho h.2).1
  cases h with
  | piece hg hc =>
    have := piece_sees p s d b.all hg hc
    cases p <;> simp_all [pieceAttack]
  | pawn _ _ _ _ hst hto => simp [pawn_step_attacks b.r.side s d (hpawn hto hocc) hst]
  | promo _ hsr hdr hto =>
    simp [pawn_step_attacks b.r.side s d (hpawn hto hocc) ((pg_promo _ s d hsr).mp hdr)]
  | double _ _ _ _ he => exact absurd he hocc
  | ep q _ _ _ hep _ hd => exact absurd (hd ▸ (hs.ep q hep).2.2) hocc
  | castleK _ hd _ hpass =>
    exact absurd (hd ▸ ((pass_iff b hb b.r.side).1.mp hpass).2) hocc
  | castleQ _ hd _ hpass =>
    exact absurd (hd ▸ ((pass_iff b hb b.r.side).2.mp hpass).2.1) hocc

end Owl.Lemmas
