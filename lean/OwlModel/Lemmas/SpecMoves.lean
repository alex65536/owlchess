/-
The rules' move lists (`Spec.pawnMoves`, `Spec.pieceMoves`, `Spec.castleMoves`, `Spec.pseudoMoves`) cut into their
parts, each part with its membership lemma. The parts are the sub-terms of the rules (`pawnMoves_eq` after unfolding,
`pseudoMoves_eq` as it stands; `pieceMoves_eq` fuses the two filters of a leaper into one).
Everything said about all pseudo-legal moves (symmetry, agreement with the implementation, how many there are, that
none occurs twice) goes through this one description.
-/
import OwlModel.Lemmas.SpecRead

namespace Owl.Lemmas
open Owl Owl.Spec

/-- promotion split of the specification's pawn moves -/
def kindOK (c : Color) (k : Kind) (t : Sq) : Prop :=
  (rank t = promoRank c ∧ (k = .promN ∨ k = .promB ∨ k = .promR ∨ k = .promQ))
    ∨ (¬ rank t = promoRank c ∧ k = .simple)

/-- the `mk` of `Spec.pawnMoves`: the arrival of a pawn on `t`, as the four promotions on the last rank -/
def pawnTo (c : Color) (s : Sq) (k : Kind) (t : Sq) : List Move :=
  if rank t = promoRank c ∧ k = .simple then promKinds.map fun pk => ⟨pk, ⟨c, .pawn⟩, s, t⟩
  else [⟨k, ⟨c, .pawn⟩, s, t⟩]

theorem mem_pawnTo (c : Color) (s t : Sq) (sm : Move) :
    sm ∈ pawnTo c s .simple t ↔ sm.man = ⟨c, .pawn⟩ ∧ sm.src = s ∧ sm.dst = t ∧ kindOK c sm.kind t := by
  obtain ⟨k, m, s', d⟩ := sm
  unfold pawnTo kindOK
  by_cases h : rank t = promoRank c
  · simp only [h, and_self, if_true, promKinds, List.map_cons, List.map_nil, List.mem_cons, Move.mk.injEq,
      List.not_mem_nil, or_false, true_and, not_true_eq_false, false_and]
    constructor
    · rintro (⟨a, b, c, d⟩ | ⟨a, b, c, d⟩ | ⟨a, b, c, d⟩ | ⟨a, b, c, d⟩) <;> simp [a, b, c, d]
    · rintro ⟨a, b, c, (d | d | d | d)⟩ <;> simp [a, b, c, d]
  · simp only [h, false_and, if_false, List.mem_singleton, Move.mk.injEq, not_false_eq_true, true_and, false_or]
    constructor
    · rintro ⟨a, b, c, d⟩; simp [a, b, c, d]
    · rintro ⟨a, b, c, d⟩; simp [a, b, c, d]

theorem mem_move_singleton (sm : Move) (k : Kind) (m : Man) (s d : Sq) :
    sm ∈ [(⟨k, m, s, d⟩ : Move)] ↔ sm.man = m ∧ sm.src = s ∧ sm.dst = d ∧ sm.kind = k := by
  obtain ⟨k', m', s', d'⟩ := sm
  simp only [List.mem_singleton, Move.mk.injEq]
  exact ⟨fun ⟨a, b, c, d⟩ => ⟨b, c, d, a⟩, fun ⟨b, c, d, a⟩ => ⟨a, b, c, d⟩⟩

theorem kindOK_cases {c : Color} {k : Kind} {t : Sq} (h : kindOK c k t) :
    k = .simple ∨ k = .promN ∨ k = .promB ∨ k = .promR ∨ k = .promQ := by
  unfold kindOK at h
  rcases h with ⟨_, h | h | h | h⟩ | ⟨_, h⟩ <;> simp [h]

/-- the `push` of `Spec.pawnMoves`: the single and the double step -/
def pushPart (P : Pos) (s : Sq) (c : Color) : List Move :=
  match step s (0, forward c) with
  | some t => if (P.get t).isNone then
      pawnTo c s .simple t ++ (if rank s = pawnStartRank c then
        match step t (0, forward c) with
        | some u => if (P.get u).isNone then [⟨.double, ⟨c, .pawn⟩, s, u⟩] else []
        | none => [] else [])
    else []
  | none => []

/-- the summand of `caps` in `Spec.pawnMoves` for the file offset `df`: a capture or an en-passant capture -/
def capAt (P : Pos) (s : Sq) (c : Color) (df : Int) : List Move :=
  match step s (df, forward c) with
  | some t => match P.get t with
    | some x => if x.color ≠ c then pawnTo c s .simple t else []
    | none => match P.ep with
      | some e => if step e (0, forward c) = some t ∧ rank e = rank s then [⟨.ep, ⟨c, .pawn⟩, s, t⟩] else []
      | none => []
  | none => []

theorem pawnMoves_eq (P : Pos) (s : Sq) (c : Color) :
    pawnMoves P s c = pushPart P s c ++ [(-1 : Int), 1].flatMap (capAt P s c) := by
  -- unfolded, the two sides are the same term; a bare `rfl` compares them by evaluating the lists
  unfold pawnMoves pushPart capAt pawnTo
  rfl

theorem mem_pushPart (P : Pos) (s : Sq) (c : Color) (sm : Move) :
    sm ∈ pushPart P s c ↔ sm.man = ⟨c, .pawn⟩ ∧ sm.src = s ∧
      ((step s (0, forward c) = some sm.dst ∧ (P.get sm.dst).isNone = true ∧ kindOK c sm.kind sm.dst)
       ∨ (sm.kind = .double ∧ ∃ t, step s (0, forward c) = some t ∧ (P.get t).isNone = true
            ∧ rank s = pawnStartRank c ∧ step t (0, forward c) = some sm.dst
            ∧ (P.get sm.dst).isNone = true)) := by
  unfold pushPart
  cases hst : step s (0, forward c) with
  | none => simp
  | some t =>
    cases hst2 : step t (0, forward c) with
    | none =>
      simp only [List.mem_ite_nil_right, List.mem_append, mem_pawnTo, List.not_mem_nil, ite_self, or_false, and_false,
        Option.some.injEq, exists_eq_left', hst2, reduceCtorEq, false_and]
      constructor
      · rintro ⟨hn, a, b, rfl, d⟩; exact ⟨a, b, rfl, hn, d⟩
      · rintro ⟨a, b, rfl, hn, d⟩; exact ⟨hn, a, b, rfl, d⟩
    | some u =>
      simp only [List.mem_ite_nil_right, List.mem_append, mem_pawnTo, mem_move_singleton, Option.some.injEq,
        exists_eq_left', hst2]
      constructor
      · rintro ⟨hn, (⟨a, b, rfl, d⟩ | ⟨hr, hu, a, b, rfl, k⟩)⟩
        · exact ⟨a, b, Or.inl ⟨rfl, hn, d⟩⟩
        · exact ⟨a, b, Or.inr ⟨k, hn, hr, rfl, hu⟩⟩
      · rintro ⟨a, b, (⟨rfl, hn, d⟩ | ⟨k, hn, hr, rfl, hu⟩)⟩
        · exact ⟨hn, Or.inl ⟨a, b, rfl, d⟩⟩
        · exact ⟨hn, Or.inr ⟨hr, hu, a, b, rfl, k⟩⟩

/-- what a diagonal pawn step onto `d` needs: an enemy man there (kind by the promotion split), or the en-passant mark -/
def CapOK (P : Pos) (c : Color) (s d : Sq) (k : Kind) : Prop :=
  ((P.get d).any (fun x => x.color != c) = true ∧ kindOK c k d)
    ∨ (k = .ep ∧ (P.get d).isNone = true ∧ ∃ e, P.ep = some e
          ∧ step e (0, forward c) = some d ∧ rank e = rank s)

theorem CapOK.kind_ne_double {P : Pos} {c : Color} {s d : Sq} {k : Kind} (h : CapOK P c s d k) : k ≠ .double := by
  rcases h with ⟨_, h⟩ | ⟨h, _⟩
  · intro e; have := kindOK_cases h; rw [e] at this; simp at this
  · rw [h]; decide

theorem mem_capAt (P : Pos) (s : Sq) (c : Color) (df : Int) (sm : Move) :
    sm ∈ capAt P s c df ↔ sm.man = ⟨c, .pawn⟩ ∧ sm.src = s ∧ step s (df, forward c) = some sm.dst ∧
      CapOK P c s sm.dst sm.kind := by
  unfold capAt CapOK
  cases hst : step s (df, forward c) with
  | none => simp
  | some t =>
    simp only [Option.some.injEq]
    cases hg : P.get t with
    | some x =>
      simp only [List.mem_ite_nil_right, mem_pawnTo]
      constructor
      · rintro ⟨hx, a, b, rfl, d⟩
        exact ⟨a, b, rfl, Or.inl ⟨by rw [hg]; simpa using hx, d⟩⟩
      · rintro ⟨a, b, rfl, (⟨hx, d⟩ | ⟨_, hn, _⟩)⟩
        · exact ⟨by rw [hg] at hx; simpa using hx, a, b, rfl, d⟩
        · rw [hg] at hn; cases hn
    | none =>
      cases he : P.ep with
      | none =>
        simp only [List.not_mem_nil, false_iff]
        rintro ⟨_, _, rfl, (⟨h, _⟩ | ⟨_, _, e', h, _⟩)⟩
        · rw [hg] at h; cases h
        · cases h
      | some e =>
        simp only [List.mem_ite_nil_right, mem_move_singleton, Option.some.injEq, exists_eq_left']
        constructor
        · rintro ⟨⟨h1, h2⟩, a, b, rfl, k⟩
          exact ⟨a, b, rfl, Or.inr ⟨k, by rw [hg]; rfl, h1, h2⟩⟩
        · rintro ⟨a, b, rfl, (⟨h, _⟩ | ⟨k, _, h1, h2⟩)⟩
          · rw [hg] at h; cases h
          · exact ⟨⟨h1, h2⟩, a, b, rfl, k⟩

/-- the specification's pawn moves from `s`, as a predicate on destination and kind -/
def SpecPawn (P : Pos) (c : Color) (s d : Sq) (k : Kind) : Prop :=
  (step s (0, forward c) = some d ∧ (P.get d).isNone = true ∧ kindOK c k d)
  ∨ (k = .double ∧ ∃ t, step s (0, forward c) = some t ∧ (P.get t).isNone = true
        ∧ rank s = pawnStartRank c ∧ step t (0, forward c) = some d ∧ (P.get d).isNone = true)
  ∨ ((step s (-1, forward c) = some d ∨ step s (1, forward c) = some d) ∧ CapOK P c s d k)

theorem mem_pawnMoves (P : Pos) (s : Sq) (c : Color) (sm : Move) :
    sm ∈ pawnMoves P s c ↔ sm.man = ⟨c, .pawn⟩ ∧ sm.src = s ∧ SpecPawn P c s sm.dst sm.kind := by
  rw [pawnMoves_eq]
  simp only [List.flatMap_cons, List.flatMap_nil, List.append_nil, List.mem_append, mem_pushPart, mem_capAt]
  unfold SpecPawn
  constructor
  · rintro (⟨a, b, (h | h)⟩ | ⟨a, b, e, h⟩ | ⟨a, b, e, h⟩)
    · exact ⟨a, b, Or.inl h⟩
    · exact ⟨a, b, Or.inr (Or.inl h)⟩
    · exact ⟨a, b, Or.inr (Or.inr ⟨Or.inl e, h⟩)⟩
    · exact ⟨a, b, Or.inr (Or.inr ⟨Or.inr e, h⟩)⟩
  · rintro ⟨a, b, (h | h | ⟨(e | e), h⟩)⟩
    · exact Or.inl ⟨a, b, Or.inl h⟩
    · exact Or.inl ⟨a, b, Or.inr h⟩
    · exact Or.inr (Or.inl ⟨a, b, e, h⟩)
    · exact Or.inr (Or.inr ⟨a, b, e, h⟩)

theorem pawnMoves_kind {P : Pos} {s : Sq} {c : Color} {sm : Move} (h : sm ∈ pawnMoves P s c) :
    sm.kind ≠ .castleK ∧ sm.kind ≠ .castleQ := by
  have hk : ∀ {t}, kindOK c sm.kind t → sm.kind ≠ .castleK ∧ sm.kind ≠ .castleQ := fun h => by
    have := kindOK_cases h
    constructor <;> (intro e; rw [e] at this; simp at this)
  rcases ((mem_pawnMoves P s c sm).mp h).2.2 with ⟨_, _, h⟩ | ⟨h, _⟩ | ⟨_, ⟨_, h⟩ | ⟨h, _⟩⟩
  · exact hk h
  · rw [h]; decide
  · exact hk h
  · rw [h]; decide

theorem pieceMoves_pawn (P : Pos) (s : Sq) (c : Color) : pieceMoves P s ⟨c, .pawn⟩ = pawnMoves P s c := rfl

/-- the squares a man other than a pawn reaches from `s`, whatever stands on them -/
def targets (P : Pos) (p : Piece) (s : Sq) : List Sq :=
  match p with
  | .knight => knightSteps.filterMap (step s)
  | .king => kingSteps.filterMap (step s)
  | pc => slide (dirsOf pc) P.occ s

theorem pieceMoves_eq (P : Pos) (s : Sq) (m : Man) (hp : m.piece ≠ .pawn) :
    pieceMoves P s m = (targets P m.piece s).filterMap fun t =>
      if (!(P.get t).any (fun x => x.color == m.color)) = true then some ⟨.simple, m, s, t⟩ else none := by
  obtain ⟨c, p⟩ := m
  cases p
  · exact absurd rfl hp
  all_goals (unfold pieceMoves targets; simp only [List.filterMap_filterMap])

theorem mem_pieceMoves (P : Pos) (s : Sq) (m : Man) (hp : m.piece ≠ .pawn) (sm : Move) :
    sm ∈ pieceMoves P s m ↔ sm.kind = .simple ∧ sm.man = m ∧ sm.src = s ∧ sm.dst ∈ targets P m.piece s
      ∧ (!(P.get sm.dst).any (fun x => x.color == m.color)) = true := by
  rw [pieceMoves_eq P s m hp, List.mem_filterMap]
  obtain ⟨k, m', s', d⟩ := sm
  constructor
  · rintro ⟨t, ht, h⟩
    by_cases hf : (!(P.get t).any (fun x => x.color == m.color)) = true
    · rw [if_pos hf] at h
      simp only [Option.some.injEq, Move.mk.injEq] at h
      obtain ⟨rfl, rfl, rfl, rfl⟩ := h
      exact ⟨rfl, rfl, rfl, ht, hf⟩
    · rw [if_neg hf] at h; cases h
  · rintro ⟨h1, h2, h3, h4, h5⟩
    simp only at h1 h2 h3 h4 h5
    subst h1 h2 h3
    exact ⟨d, h4, by rw [if_pos h5]⟩

/-- every move generated for the man `m` on `s` is a move of that man from that square, and no castling -/
theorem pieceMoves_shape {P : Pos} {s : Sq} {m : Man} {sm : Move} (h : sm ∈ pieceMoves P s m) :
    sm.man = m ∧ sm.src = s ∧ sm.kind ≠ .castleK ∧ sm.kind ≠ .castleQ := by
  by_cases hp : m.piece = .pawn
  · obtain ⟨c, pc⟩ := m
    subst hp
    rw [pieceMoves_pawn] at h
    exact ⟨((mem_pawnMoves P s c sm).mp h).1, ((mem_pawnMoves P s c sm).mp h).2.1, pawnMoves_kind h⟩
  · obtain ⟨hk, hm, hs, _⟩ := (mem_pieceMoves P s m hp sm).mp h
    rw [hk]
    exact ⟨hm, hs, by decide, by decide⟩

theorem mem_castleMoves (P : Pos) (c : Color) (sm : Move) :
    sm ∈ castleMoves P c ↔
      ((P.rights.has c .king = true
          ∧ ((P.get (sqOf 5 (homeRank c))).isNone = true ∧ (P.get (sqOf 6 (homeRank c))).isNone = true)
          ∧ (attackedBy P (sqOf 4 (homeRank c)) c.inv = false
              ∧ attackedBy P (sqOf 5 (homeRank c)) c.inv = false))
        ∧ sm = ⟨.castleK, ⟨c, .king⟩, sqOf 4 (homeRank c), sqOf 6 (homeRank c)⟩)
      ∨ ((P.rights.has c .queen = true
          ∧ ((P.get (sqOf 1 (homeRank c))).isNone = true ∧ (P.get (sqOf 2 (homeRank c))).isNone = true
              ∧ (P.get (sqOf 3 (homeRank c))).isNone = true)
          ∧ (attackedBy P (sqOf 4 (homeRank c)) c.inv = false
              ∧ attackedBy P (sqOf 3 (homeRank c)) c.inv = false))
        ∧ sm = ⟨.castleQ, ⟨c, .king⟩, sqOf 4 (homeRank c), sqOf 2 (homeRank c)⟩) := by
  unfold castleMoves
  simp only [List.mem_append, List.mem_ite_nil_right, List.mem_singleton, List.all_cons, List.all_nil, Bool.and_true, Bool.and_eq_true,
    Bool.not_eq_true']

theorem castleMoves_eq_nil {P : Pos} {c : Color} (h : ∀ sd, P.rights.has c sd = false) : castleMoves P c = [] := by
  unfold castleMoves
  simp only [h, Bool.false_eq_true, false_and, if_false, List.append_nil]

theorem castleMoves_nil {p : Pos} (h : p.rights = RightsSet.none) (c : Color) : castleMoves p c = [] :=
  castleMoves_eq_nil fun sd => by rw [h, none_has]

theorem castleMoves_shape {P : Pos} {c : Color} {sm : Move} (h : sm ∈ castleMoves P c) :
    sm.man = ⟨c, .king⟩ ∧ sm.src = kingHome c ∧ (sm.kind = .castleK ∨ sm.kind = .castleQ)
      ∧ ∃ sd, P.rights.has c sd = true := by
  rcases (mem_castleMoves P c sm).mp h with ⟨hr, rfl⟩ | ⟨hr, rfl⟩
  · exact ⟨rfl, rfl, Or.inl rfl, .king, hr.1⟩
  · exact ⟨rfl, rfl, Or.inr rfl, .queen, hr.1⟩

/-- the moves of the man of the side to move on `s` -/
def fromSq (P : Pos) (s : Sq) : List Move :=
  match P.get s with
  | some m => if m.color ≠ P.side then [] else pieceMoves P s m
  | none => []

theorem pseudoMoves_eq (P : Pos) : pseudoMoves P = allSq.flatMap (fromSq P) ++ castleMoves P P.side := rfl

theorem mem_fromSq (P : Pos) (s : Sq) (sm : Move) :
    sm ∈ fromSq P s ↔ ∃ m, P.get s = some m ∧ m.color = P.side ∧ sm ∈ pieceMoves P s m := by
  unfold fromSq
  cases P.get s with
  | none => simp
  | some m => by_cases hc : m.color = P.side <;> simp [hc]

/-- a pseudo-legal move is a move of the man on its source square, of the side to move, or castling -/
theorem mem_pseudoMoves (P : Pos) (sm : Move) :
    sm ∈ pseudoMoves P ↔
      (P.get sm.src = some sm.man ∧ sm.man.color = P.side ∧ sm ∈ pieceMoves P sm.src sm.man)
        ∨ sm ∈ castleMoves P P.side := by
  rw [pseudoMoves_eq, List.mem_append, List.mem_flatMap]
  apply or_congr_left
  constructor
  · rintro ⟨s, _, h⟩
    obtain ⟨m, hg, hc, hm⟩ := (mem_fromSq P s sm).mp h
    obtain ⟨rfl, rfl, _⟩ := pieceMoves_shape hm
    exact ⟨hg, hc, hm⟩
  · rintro ⟨hg, hc, hm⟩
    exact ⟨sm.src, List.mem_finRange _, (mem_fromSq P _ sm).mpr ⟨_, hg, hc, hm⟩⟩

end Owl.Lemmas

namespace Owl.Props.C18
open Owl Owl.Spec Owl.Lemmas

theorem src_pseudoMoves {p : Pos} (hk : KingHomeOK p) {m : Move} (h : m ∈ pseudoMoves p) :
    p.get m.src = some m.man := by
  rcases (mem_pseudoMoves p m).mp h with h | h
  · exact h.1
  · obtain ⟨h1, h2, _, sd, h3⟩ := castleMoves_shape h
    rw [h1, h2]; exact hk sd h3

/-- castling moves do not occur without rights -/
theorem not_castle_of_no_rights {p : Pos} (hr : p.rights = RightsSet.none) {m : Move}
    (h : m ∈ pseudoMoves p) : m.kind ≠ .castleK ∧ m.kind ≠ .castleQ := by
  rcases (mem_pseudoMoves p m).mp h with h | h
  · exact (pieceMoves_shape h.2.2).2.2
  · rw [castleMoves_nil hr] at h; cases h

end Owl.Props.C18
