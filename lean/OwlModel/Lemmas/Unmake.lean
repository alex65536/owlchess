/-
`unmake_move_unchecked` after `make_move_unchecked` restores the board exactly (C04).  Undo writes the old
contents back to the squares that were written (`unmake_cells`, all kinds at once) and XORs the same masks into the sets
again, so they cancel whatever the sets were.  `Consistent` is used for two things only: a captured man, cleared by
AND-NOT and restored by OR, was in its sets, and `all`, which undo recomputes, was the union of the two colour sets.
-/
import OwlModel.Lemmas.Make

namespace Owl.Lemmas
open Owl Owl.Impl

/-- agreement of two boards on colour sets and piece sets -/
def SameSets (X Y : Board) : Prop :=
  (∀ c, X.color c = Y.color c) ∧ (∀ x, X.pieces.get x = Y.pieces.get x)

theorem unmakeBody_cells (c : Color) (X : Board) (mv : Move) (sc y : Cell) :
    (unmakeBody c X mv sc y).r.cells =
      match mv.kind with
      | .null => X.r.cells
      | .simple => (X.r.cells.put mv.src sc).put mv.dst y
      | .double => (X.r.cells.put mv.src (Cell.mk c .pawn)).put mv.dst Cell.empty
      | .castleK => (((X.r.cells.put (Sq.mk fileE (castlingRank c)) (Cell.mk c .king)).put (Sq.mk fileF (castlingRank c)) Cell.empty).put
          (Sq.mk fileG (castlingRank c)) Cell.empty).put (Sq.mk fileH (castlingRank c)) (Cell.mk c .rook)
      | .castleQ => (((X.r.cells.put (Sq.mk fileA (castlingRank c)) (Cell.mk c .rook)).put (Sq.mk fileC (castlingRank c)) Cell.empty).put
          (Sq.mk fileD (castlingRank c)) Cell.empty).put (Sq.mk fileE (castlingRank c)) (Cell.mk c .king)
      | .ep => ((X.r.cells.put mv.src (Cell.mk c .pawn)).put mv.dst Cell.empty).put (addU mv.dst (-(forwardDelta c)))
          (Cell.mk c.inv .pawn)
      | _ => (X.r.cells.put mv.src (Cell.mk c .pawn)).put mv.dst y := by
  unfold unmakeBody
  cases mv.kind <;> simp [makeCastlingK, makeCastlingQ, makePawnDouble, makeEnpassant]

/-- undoing writes back, square by square, what `MakeOk` says stood there -/
theorem unmake_cells (B X : Board) (mv : Move) (ok : MakeOk B mv)
    (hX : X.r.cells = (makeBody B.r.side B mv (B.get mv.dst)).r.cells) :
    (unmakeBody B.r.side X mv (X.get mv.dst) (B.get mv.dst)).r.cells = B.r.cells := by
  rw [unmakeBody_cells, show X.get mv.dst = X.r.cells.get mv.dst from rfl, hX, makeBody_cells]
  unfold MakeOk at ok
  cases hk : mv.kind <;> simp only [hk] at ok ⊢
  · obtain ⟨(e1 : B.r.cells.get mv.src = _), -, -, -⟩ := ok
    simpa only [Tab.puts_cons, Tab.puts_nil, List.map_cons, List.map_nil, Tab.get_put, if_true, e1, Board.get, RawBoard.get] using
      Tab.puts_restore B.r.cells [(mv.src, Cell.empty), (mv.dst, mv.cell)]
  · obtain ⟨(e1 : B.r.cells.get _ = _), (e2 : B.r.cells.get _ = _), (e3 : B.r.cells.get _ = _), (e4 : B.r.cells.get _ = _)⟩ := ok
    simpa only [Tab.puts_cons, Tab.puts_nil, List.map_cons, List.map_nil, e1, e2, e3, e4] using
      Tab.puts_restore B.r.cells [(Sq.mk fileE (castlingRank B.r.side), Cell.empty), (Sq.mk fileF (castlingRank B.r.side), Cell.mk B.r.side .rook),
        (Sq.mk fileG (castlingRank B.r.side), Cell.mk B.r.side .king), (Sq.mk fileH (castlingRank B.r.side), Cell.empty)]
  · obtain ⟨(e1 : B.r.cells.get _ = _), (e2 : B.r.cells.get _ = _), (e3 : B.r.cells.get _ = _), (e4 : B.r.cells.get _ = _)⟩ := ok
    simpa only [Tab.puts_cons, Tab.puts_nil, List.map_cons, List.map_nil, e1, e2, e3, e4] using
      Tab.puts_restore B.r.cells [(Sq.mk fileA (castlingRank B.r.side), Cell.empty), (Sq.mk fileC (castlingRank B.r.side), Cell.mk B.r.side .king),
        (Sq.mk fileD (castlingRank B.r.side), Cell.mk B.r.side .rook), (Sq.mk fileE (castlingRank B.r.side), Cell.empty)]
  · obtain ⟨(e1 : B.r.cells.get _ = _), (e2 : B.r.cells.get _ = _), -⟩ := ok
    simpa only [Tab.puts_cons, Tab.puts_nil, List.map_cons, List.map_nil, e1, e2] using
      Tab.puts_restore B.r.cells [(mv.src, Cell.empty), (mv.dst, Cell.mk B.r.side .pawn)]
  · obtain ⟨(e1 : B.r.cells.get _ = _), (e2 : B.r.cells.get _ = _), (e3 : B.r.cells.get _ = _), -⟩ := ok
    simpa only [Tab.puts_cons, Tab.puts_nil, List.map_cons, List.map_nil, e1, e2, e3] using
      Tab.puts_restore B.r.cells [(mv.src, Cell.empty), (mv.dst, Cell.mk B.r.side .pawn),
        (addU mv.dst (-(forwardDelta B.r.side)), Cell.empty)]
  all_goals
    obtain ⟨(e1 : B.r.cells.get _ = _), e2, -, -⟩ := ok
    simpa only [Tab.puts_cons, Tab.puts_nil, List.map_cons, List.map_nil, e1, e2, Board.get, RawBoard.get] using
      Tab.puts_restore B.r.cells [(mv.src, Cell.empty), (mv.dst, Cell.mk B.r.side (Kind.promote _ |>.getD .queen))]

/-- `do_unmake_move` for a simple move (`P = m`) and for a promotion (`m` the pawn, `P` the piece it became) -/
def unmoveBody (c : Color) (X : Board) (s d : Sq) (m P y : Cell) : Board :=
  (((((X.putCell s m).putCell d y).xorColor c (BB.single s ||| BB.single d)).xorPiece m (BB.single s)).xorPiece P
    (BB.single d)).restoreCaptured c.inv y (BB.single d)

theorem unmakeBody_simple (c : Color) (X : Board) (mv : Move) (sc y : Cell) (hk : mv.kind = .simple)
    (hne : mv.src ≠ mv.dst) : unmakeBody c X mv sc y = unmoveBody c X mv.src mv.dst sc sc y := by
  unfold unmakeBody unmoveBody
  simp only [hk]
  rw [xorPiece_xorPiece, ← BB.single_or_single hne]

theorem unmakeBody_promote (c : Color) (X : Board) (mv : Move) (sc y : Cell)
    (hk : mv.kind = .promN ∨ mv.kind = .promB ∨ mv.kind = .promR ∨ mv.kind = .promQ) :
    unmakeBody c X mv sc y = unmoveBody c X mv.src mv.dst (Cell.mk c .pawn) sc y := by
  unfold unmakeBody unmoveBody
  rcases hk with h | h | h | h <;> simp [h]

theorem unmoveBody_spec (c : Color) (X : Board) {s d : Sq} (m P y : Cell) (hne : s ≠ d) (U : Board)
    (hU : U = unmoveBody c X s d m P y) :
    (∀ c', U.color c'
        = if c = c' then X.color c' ^^^ (BB.single s ^^^ BB.single d) else X.color c' ||| BB.bit (y.isOcc = true) d)
    ∧ (∀ x, U.pieces.get x
        = if y = x then (X.pieces.get x ^^^ (BB.bit (m = x) s ^^^ BB.bit (P = x) d)) ||| BB.bit (y.isOcc = true) d
          else X.pieces.get x ^^^ (BB.bit (m = x) s ^^^ BB.bit (P = x) d)) := by
  subst hU
  unfold unmoveBody
  rw [BB.single_or_single hne]
  refine ⟨fun c' => ?_, fun x => ?_⟩
  · cases c <;> cases c' <;> cases h : y.isOcc <;> simp [Color.inv, h]
  · simp only [restoreCaptured_pieces, xorPiece_pieces, xorColor_pieces, putCell_pieces]
    by_cases h1 : m = x <;> by_cases h2 : P = x <;> by_cases h3 : y = x <;> cases h : y.isOcc <;>
      simp_all [Tab.get_put, BitVec.xor_assoc]

theorem move_undo {B X : Board} {s d : Sq} {m P : Cell} (chg : BB) (hB : Core B) (hne : s ≠ d)
    (hm : m.color = some B.r.side) (hP : P.color = some B.r.side) (hd : (B.r.cells.get d).color ≠ some B.r.side)
    (hX : SameSets X (moveBody B.r.side B s d m P (B.r.cells.get d) chg)) :
    SameSets (unmoveBody B.r.side X s d m P (B.r.cells.get d)) B := by
  obtain ⟨-, hc, hp⟩ := hB
  obtain ⟨hXcol, hXp⟩ := hX
  obtain ⟨hcol, hpc, -⟩ := moveBody_spec B.r.side B m P (B.r.cells.get d) chg hne _ rfl
  obtain ⟨hucol, hupc⟩ := unmoveBody_spec B.r.side X m P (B.r.cells.get d) hne _ rfl
  refine ⟨fun c' => ?_, fun x => ?_⟩
  · rw [hucol, hXcol, hcol]
    by_cases e : B.r.side = c'
    · simp only [e, if_true, BB.xor_xor_cancel]
    · have hocc : (B.color c').has d = (B.r.cells.get d).isOcc := by
        rw [hc, has_colorSet, ← inv_of_ne e, Bool.eq_iff_iff, decide_eq_true_eq]
        rw [color_inv_iff, isOcc_iff]; exact ⟨And.right, fun h => ⟨hd, h⟩⟩
      simp only [e, if_false]
      rw [← hocc]; exact BB.andNot_restore _ _
  · rw [hupc, hXp, hpc]
    by_cases h : B.r.cells.get d = x
    · subst h
      have hmd : ¬ m = B.r.cells.get d := fun e => hd (e ▸ hm)
      have hPd : ¬ P = B.r.cells.get d := fun e => hd (e ▸ hP)
      have hocc : (B.pieces.get (B.r.cells.get d)).has d = (B.r.cells.get d).isOcc := by
        rw [hp, has_pieceSet]
        unfold Cell.isOcc; by_cases h : (B.r.cells.get d).val = 0 <;> simp [h]
      simp only [if_true, hmd, hPd, BB.bit_false, BitVec.xor_zero]
      rw [← hocc]; exact BB.andNot_restore _ _
    · simp only [h, if_false, BB.xor_xor_cancel]

theorem XorSets.undo {B Y X U : Board} {M : Color → BB} {N : Cell → BB} (hY : XorSets B Y M N) (hX : SameSets X Y)
    (hU : XorSets X U M N) : SameSets U B :=
  ⟨fun c' => by rw [hU.1, hX.1, hY.1, BB.xor_xor_cancel], fun x => by rw [hU.2, hX.2, hY.2, BB.xor_xor_cancel]⟩

/-- castling, either side: `Y` is the board made, `U` the board unmade -/
theorem swap_undo {B X Y U : Board} {c : Color} {s1 s2 s3 s4 : Sq} {mA mB : Cell} {δ : BB}
    (hY : Y = swapBody c B s1 s2 s3 s4 mA mB δ false) (hU : U = swapBody c X s1 s2 s3 s4 mA mB δ true)
    (hX : SameSets X Y) : SameSets U B :=
  (swapBody_spec c B s1 s2 s3 s4 mA mB δ false Y hY).1.undo hX (swapBody_spec c X s1 s2 s3 s4 mA mB δ true U hU).1

theorem unbody_sameSets (B X : Board) (mv : Move) (hB : Core B) (ok : MakeOk B mv)
    (hXc : X.r.cells = (makeBody B.r.side B mv (B.get mv.dst)).r.cells)
    (hX : SameSets X (makeBody B.r.side B mv (B.get mv.dst))) :
    SameSets (unmakeBody B.r.side X mv (X.get mv.dst) (B.get mv.dst)) B := by
  have hsc : X.get mv.dst = X.r.cells.get mv.dst := rfl
  rw [makeBody_cells] at hXc
  unfold MakeOk at ok
  cases hk : mv.kind <;> simp only [hk] at ok hXc
  · unfold makeBody at hX; simp only [hk] at hX
    unfold unmakeBody; simp only [hk]; exact hX
  · obtain ⟨hsrc, hcol, hdst, hne⟩ := ok
    rw [makeBody_simple _ _ _ _ hk hne] at hX
    rw [unmakeBody_simple _ _ _ _ _ hk hne, hsc, hXc, Tab.get_put, if_pos rfl]
    exact move_undo _ hB hne hcol hcol hdst hX
  · exact swap_undo ((show _ = makeCastlingK B.r.side B false by unfold makeBody; simp only [hk]).trans
      (makeCastlingK_eq ..)) ((show _ = makeCastlingK B.r.side X true by unfold unmakeBody; simp only [hk]).trans
      (makeCastlingK_eq ..)) hX
  · exact swap_undo ((show _ = makeCastlingQ B.r.side B false by unfold makeBody; simp only [hk]).trans
      (makeCastlingQ_eq ..)) ((show _ = makeCastlingQ B.r.side X true by unfold unmakeBody; simp only [hk]).trans
      (makeCastlingQ_eq ..)) hX
  · obtain ⟨-, -, hne⟩ := ok
    exact (makePawnDouble_spec B.r.side B mv false hne _ (by unfold makeBody; simp only [hk])).1.undo hX
      (makePawnDouble_spec B.r.side X mv true hne _ (by unfold unmakeBody; simp only [hk])).1
  · obtain ⟨-, -, -, hne, -, -⟩ := ok
    exact (makeEnpassant_spec B.r.side B mv false hne _ rfl _ (by unfold makeBody; simp only [hk])).1.undo hX
      (makeEnpassant_spec B.r.side X mv true hne _ rfl _ (by unfold unmakeBody; simp only [hk])).1
  all_goals
    obtain ⟨hsrc, hcell, hdst, hne⟩ := ok
    rw [makeBody_promote _ _ _ _ (by simp [hk]) hcell] at hX
    simp only [hk] at hX
    rw [unmakeBody_promote _ _ _ _ _ (by simp [hk]), hsc, hXc, Tab.get_put, if_pos rfl]
    exact move_undo _ hB hne (color_mk _ _) (color_mk _ _) hdst hX

/-- C04: applying a move and undoing it restores the board in every field -/
theorem unmake_make (b : Board) (mv : Move) (hb : Consistent b) (ok : MakeOk b mv) :
    unmakeMove (makeMove b mv).1 mv (makeMove b mv).2 = b := by
  have hcons := (consistent_core b).mp hb
  have hcore := clearEp_core b hcons.1
  have ok' := makeOk_clearEp b mv ok
  have hXc : (makeMove b mv).1.r.cells = (makeBody b.clearEp.r.side b.clearEp mv (b.clearEp.get mv.dst)).r.cells := by
    rw [make_cells, clearEp_side, clearEp_get]
  have hsame : SameSets (makeMove b mv).1 (makeBody b.clearEp.r.side b.clearEp mv (b.clearEp.get mv.dst)) := by
    unfold makeMove
    simp only [clearEp_side, clearEp_get]
    refine ⟨?_, ?_⟩ <;> simp
  have hs := unbody_sameSets b.clearEp (makeMove b mv).1 mv hcore ok' hXc hsame
  have hcells := unmake_cells b.clearEp (makeMove b mv).1 mv ok' hXc
  rw [clearEp_side, clearEp_get] at hs hcells
  have hundo : (makeMove b mv).2 = (⟨b.hash, b.get mv.dst, b.r.castling, b.r.ep, b.r.mc, b.r.mn⟩ : RawUndo) := by
    unfold makeMove; rfl
  unfold unmakeMove
  simp only [make_side, Color.inv_inv, hundo]
  obtain ⟨hc2, hc3⟩ := hs
  apply board_ext
  · apply raw_ext <;> simp
    rw [hcells]; exact clearEp_cells b
  · simp
  · have := hc2 .white; rw [clearEp_color] at this; simpa [Board.color, Board.restore, Board.refreshAll] using this
  · have := hc2 .black; rw [clearEp_color] at this; simpa [Board.color, Board.restore, Board.refreshAll] using this
  · have hw := hc2 .white; have hbk := hc2 .black
    rw [clearEp_color] at hw hbk
    simp only [refreshAll_all, restore_color, hw, hbk]
    exact hcons.2.symm
  · apply Tab.ext; intro x
    simp only [refreshAll_pieces, restore_pieces, hc3, clearEp_pieces]

end Owl.Lemmas
