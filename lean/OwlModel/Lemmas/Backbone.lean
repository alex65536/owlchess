/-
How each board-edit helper of `moves/base.rs` acts on each field (one `@[simp]` projection lemma per helper and field), and
the two conditional steps, the clearing of the en-passant mark at the head of `do_make_move` (`clearEp`) and
`update_castling`, as one unconditional equation each.
-/
import OwlModel.Lemmas.Consistent

namespace Owl.Lemmas
open Owl Owl.Impl

/- Three `variable` lines, not one: the order of the variables is the order of the binders in the lemmas below, which uses
with positional arguments rely on, and the three groups need `h`, `t`, `v`, `x` in different orders. -/
section
variable (b : Board) (c c' : Color) (v h : BB) (x : Cell) (s t : Sq) (y : Cell) (rt : Rights) (e : Option Sq)

@[simp] theorem setColor_color : (b.setColor c v).color c' = if c = c' then v else b.color c' := by
  cases c <;> cases c' <;> simp [Board.setColor, Board.color]
@[simp] theorem setColor_r : (b.setColor c v).r = b.r := by cases c <;> simp [Board.setColor]
@[simp] theorem setColor_hash : (b.setColor c v).hash = b.hash := by cases c <;> simp [Board.setColor]
@[simp] theorem setColor_pieces : (b.setColor c v).pieces = b.pieces := by cases c <;> simp [Board.setColor]
@[simp] theorem setColor_get : (b.setColor c v).get t = b.get t := by simp [Board.get]

@[simp] theorem xorColor_color : (b.xorColor c v).color c' = if c = c' then b.color c' ^^^ v else b.color c' := by
  unfold Board.xorColor; rw [setColor_color]; by_cases e : c = c' <;> simp [e]
@[simp] theorem xorColor_r : (b.xorColor c v).r = b.r := by simp [Board.xorColor]
@[simp] theorem xorColor_hash : (b.xorColor c v).hash = b.hash := by simp [Board.xorColor]
@[simp] theorem xorColor_pieces : (b.xorColor c v).pieces = b.pieces := by simp [Board.xorColor]
@[simp] theorem xorColor_get : (b.xorColor c v).get t = b.get t := by simp [Board.get]

@[simp] theorem andNotColor_color :
    (b.andNotColor c v).color c' = if c = c' then b.color c' &&& ~~~ v else b.color c' := by
  unfold Board.andNotColor; rw [setColor_color]; by_cases e : c = c' <;> simp [e]
@[simp] theorem andNotColor_r : (b.andNotColor c v).r = b.r := by simp [Board.andNotColor]
@[simp] theorem andNotColor_hash : (b.andNotColor c v).hash = b.hash := by simp [Board.andNotColor]
@[simp] theorem andNotColor_pieces : (b.andNotColor c v).pieces = b.pieces := by simp [Board.andNotColor]
@[simp] theorem andNotColor_get : (b.andNotColor c v).get t = b.get t := by simp [Board.get]

@[simp] theorem orColor_color : (b.orColor c v).color c' = if c = c' then b.color c' ||| v else b.color c' := by
  unfold Board.orColor; rw [setColor_color]; by_cases e : c = c' <;> simp [e]
@[simp] theorem orColor_r : (b.orColor c v).r = b.r := by simp [Board.orColor]
@[simp] theorem orColor_hash : (b.orColor c v).hash = b.hash := by simp [Board.orColor]
@[simp] theorem orColor_pieces : (b.orColor c v).pieces = b.pieces := by simp [Board.orColor]
@[simp] theorem orColor_get : (b.orColor c v).get t = b.get t := by simp [Board.get]

@[simp] theorem xorPiece_color : (b.xorPiece x v).color c' = b.color c' := by simp [Board.xorPiece, Board.color]
@[simp] theorem xorPiece_r : (b.xorPiece x v).r = b.r := rfl
@[simp] theorem xorPiece_hash : (b.xorPiece x v).hash = b.hash := rfl
@[simp] theorem xorPiece_pieces : (b.xorPiece x v).pieces = b.pieces.put x (b.pieces.get x ^^^ v) := rfl
@[simp] theorem xorPiece_get : (b.xorPiece x v).get t = b.get t := rfl

@[simp] theorem andNotPiece_color : (b.andNotPiece x v).color c' = b.color c' := by simp [Board.andNotPiece, Board.color]
@[simp] theorem andNotPiece_r : (b.andNotPiece x v).r = b.r := rfl
@[simp] theorem andNotPiece_hash : (b.andNotPiece x v).hash = b.hash := rfl
@[simp] theorem andNotPiece_pieces : (b.andNotPiece x v).pieces = b.pieces.put x (b.pieces.get x &&& ~~~ v) := rfl
@[simp] theorem andNotPiece_get : (b.andNotPiece x v).get t = b.get t := rfl

@[simp] theorem orPiece_color : (b.orPiece x v).color c' = b.color c' := by simp [Board.orPiece, Board.color]
@[simp] theorem orPiece_r : (b.orPiece x v).r = b.r := rfl
@[simp] theorem orPiece_hash : (b.orPiece x v).hash = b.hash := rfl
@[simp] theorem orPiece_pieces : (b.orPiece x v).pieces = b.pieces.put x (b.pieces.get x ||| v) := rfl
@[simp] theorem orPiece_get : (b.orPiece x v).get t = b.get t := rfl

@[simp] theorem putCell_color : (b.putCell s y).color c' = b.color c' := by simp [Board.putCell, Board.color]
@[simp] theorem putCell_hash : (b.putCell s y).hash = b.hash := rfl
@[simp] theorem putCell_pieces : (b.putCell s y).pieces = b.pieces := rfl
@[simp] theorem putCell_get : (b.putCell s y).get t = if s = t then y else b.get t := by
  simp [Board.putCell, Board.get, RawBoard.get, RawBoard.put]
@[simp] theorem putCell_cells : (b.putCell s y).r.cells = b.r.cells.put s y := rfl
@[simp] theorem putCell_side : (b.putCell s y).r.side = b.r.side := rfl
@[simp] theorem putCell_castling : (b.putCell s y).r.castling = b.r.castling := rfl
@[simp] theorem putCell_ep : (b.putCell s y).r.ep = b.r.ep := rfl
@[simp] theorem putCell_mc : (b.putCell s y).r.mc = b.r.mc := rfl
@[simp] theorem putCell_mn : (b.putCell s y).r.mn = b.r.mn := rfl

@[simp] theorem xorHash_color : (b.xorHash h).color c' = b.color c' := by simp [Board.xorHash, Board.color]
@[simp] theorem xorHash_r : (b.xorHash h).r = b.r := rfl
@[simp] theorem xorHash_hash : (b.xorHash h).hash = b.hash ^^^ h := rfl
@[simp] theorem xorHash_pieces : (b.xorHash h).pieces = b.pieces := rfl
@[simp] theorem xorHash_get : (b.xorHash h).get t = b.get t := rfl

@[simp] theorem setCastling_color : (b.setCastling rt).color c' = b.color c' := by simp [Board.setCastling, Board.color]
@[simp] theorem setCastling_hash : (b.setCastling rt).hash = b.hash := rfl
@[simp] theorem setCastling_pieces : (b.setCastling rt).pieces = b.pieces := rfl
@[simp] theorem setCastling_get : (b.setCastling rt).get t = b.get t := rfl
@[simp] theorem setCastling_cells : (b.setCastling rt).r.cells = b.r.cells := rfl
@[simp] theorem setCastling_side : (b.setCastling rt).r.side = b.r.side := rfl
@[simp] theorem setCastling_castling : (b.setCastling rt).r.castling = rt := rfl
@[simp] theorem setCastling_ep : (b.setCastling rt).r.ep = b.r.ep := rfl
@[simp] theorem setCastling_mc : (b.setCastling rt).r.mc = b.r.mc := rfl
@[simp] theorem setCastling_mn : (b.setCastling rt).r.mn = b.r.mn := rfl

@[simp] theorem setEp_color : (b.setEp e).color c' = b.color c' := by simp [Board.setEp, Board.color]
@[simp] theorem setEp_hash : (b.setEp e).hash = b.hash := rfl
@[simp] theorem setEp_pieces : (b.setEp e).pieces = b.pieces := rfl
@[simp] theorem setEp_get : (b.setEp e).get t = b.get t := rfl
@[simp] theorem setEp_cells : (b.setEp e).r.cells = b.r.cells := rfl
@[simp] theorem setEp_side : (b.setEp e).r.side = b.r.side := rfl
@[simp] theorem setEp_castling : (b.setEp e).r.castling = b.r.castling := rfl
@[simp] theorem setEp_ep : (b.setEp e).r.ep = e := rfl
@[simp] theorem setEp_mc : (b.setEp e).r.mc = b.r.mc := rfl
@[simp] theorem setEp_mn : (b.setEp e).r.mn = b.r.mn := rfl

end

section
variable (b : Board) (c' : Color) (t : Sq) (mc mn : Nat) (sd : Color) (h : BB) (rt : Rights) (e : Option Sq)
@[simp] theorem setTurn_color : (b.setTurn mc sd mn).color c' = b.color c' := by simp [Board.setTurn, Board.color]
@[simp] theorem setTurn_hash : (b.setTurn mc sd mn).hash = b.hash := rfl
@[simp] theorem setTurn_pieces : (b.setTurn mc sd mn).pieces = b.pieces := rfl
@[simp] theorem setTurn_get : (b.setTurn mc sd mn).get t = b.get t := rfl
@[simp] theorem setTurn_cells : (b.setTurn mc sd mn).r.cells = b.r.cells := rfl
@[simp] theorem setTurn_side : (b.setTurn mc sd mn).r.side = sd := rfl
@[simp] theorem setTurn_castling : (b.setTurn mc sd mn).r.castling = b.r.castling := rfl
@[simp] theorem setTurn_ep : (b.setTurn mc sd mn).r.ep = b.r.ep := rfl
@[simp] theorem setTurn_mc : (b.setTurn mc sd mn).r.mc = mc := rfl
@[simp] theorem setTurn_mn : (b.setTurn mc sd mn).r.mn = mn := rfl
@[simp] theorem refreshAll_color : b.refreshAll.color c' = b.color c' := by simp [Board.refreshAll, Board.color]
@[simp] theorem refreshAll_hash : b.refreshAll.hash = b.hash := rfl
@[simp] theorem refreshAll_pieces : b.refreshAll.pieces = b.pieces := rfl
@[simp] theorem refreshAll_get : b.refreshAll.get t = b.get t := rfl
@[simp] theorem refreshAll_r : b.refreshAll.r = b.r := rfl
@[simp] theorem refreshAll_all : b.refreshAll.all = b.color .white ||| b.color .black := by
  simp [Board.refreshAll, Board.color]
@[simp] theorem refreshAll_white : b.refreshAll.white = b.color .white := by simp [Board.refreshAll, Board.color]
@[simp] theorem refreshAll_black : b.refreshAll.black = b.color .black := by simp [Board.refreshAll, Board.color]
@[simp] theorem restore_color : (b.restore h rt e mc sd mn).color c' = b.color c' := by simp [Board.restore, Board.color]
@[simp] theorem restore_hash : (b.restore h rt e mc sd mn).hash = h := rfl
@[simp] theorem restore_pieces : (b.restore h rt e mc sd mn).pieces = b.pieces := rfl
@[simp] theorem restore_get : (b.restore h rt e mc sd mn).get t = b.get t := rfl
@[simp] theorem restore_cells : (b.restore h rt e mc sd mn).r.cells = b.r.cells := rfl
@[simp] theorem restore_side : (b.restore h rt e mc sd mn).r.side = sd := rfl
@[simp] theorem restore_castling : (b.restore h rt e mc sd mn).r.castling = rt := rfl
@[simp] theorem restore_ep : (b.restore h rt e mc sd mn).r.ep = e := rfl
@[simp] theorem restore_mc : (b.restore h rt e mc sd mn).r.mc = mc := rfl
@[simp] theorem restore_mn : (b.restore h rt e mc sd mn).r.mn = mn := rfl

end

section
variable (b : Board) (c c' : Color) (x : Cell) (v : BB) (t : Sq)
@[simp] theorem restoreCaptured_color : (b.restoreCaptured c x v).color c'
    = if x.isOcc = true ∧ c = c' then b.color c' ||| v else b.color c' := by
  unfold Board.restoreCaptured
  by_cases h : x.isOcc <;> by_cases e : c = c' <;> simp [h, e]
@[simp] theorem restoreCaptured_pieces : (b.restoreCaptured c x v).pieces
    = if x.isOcc then b.pieces.put x (b.pieces.get x ||| v) else b.pieces := by
  unfold Board.restoreCaptured; split <;> simp
@[simp] theorem restoreCaptured_get : (b.restoreCaptured c x v).get t = b.get t := by
  unfold Board.restoreCaptured; split <;> simp
@[simp] theorem restoreCaptured_cells : (b.restoreCaptured c x v).r.cells = b.r.cells := by
  unfold Board.restoreCaptured; split <;> simp
end

/-- clearing an absent mark changes nothing: its key counts as 0 -/
theorem clearEp_eq (b : Board) : b.clearEp = (b.xorHash (epKey b.r.ep)).setEp none := by
  unfold Board.clearEp epKey
  cases h : b.r.ep with
  | some p => rfl
  | none => cases b with | mk r _ _ _ _ _ => cases r; simp_all [Board.xorHash, Board.setEp]

@[simp] theorem clearEp_color (b : Board) (c : Color) : b.clearEp.color c = b.color c := by rw [clearEp_eq]; simp
@[simp] theorem clearEp_pieces (b : Board) : b.clearEp.pieces = b.pieces := by rw [clearEp_eq]; rfl
@[simp] theorem clearEp_get (b : Board) (t : Sq) : b.clearEp.get t = b.get t := by rw [clearEp_eq]; rfl
@[simp] theorem clearEp_cells (b : Board) : b.clearEp.r.cells = b.r.cells := by rw [clearEp_eq]; rfl
@[simp] theorem clearEp_side (b : Board) : b.clearEp.r.side = b.r.side := by rw [clearEp_eq]; rfl
@[simp] theorem clearEp_castling (b : Board) : b.clearEp.r.castling = b.r.castling := by rw [clearEp_eq]; rfl
@[simp] theorem clearEp_ep (b : Board) : b.clearEp.r.ep = none := by rw [clearEp_eq]; rfl
@[simp] theorem clearEp_mc (b : Board) : b.clearEp.r.mc = b.r.mc := by rw [clearEp_eq]; rfl
@[simp] theorem clearEp_mn (b : Board) : b.clearEp.r.mn = b.r.mn := by rw [clearEp_eq]; rfl

/-- the rights after `update_castling`, its early return folded in -/
def rightsAfter (r : Rights) (ch : BB) : Rights :=
  if (ch &&& castlingAllSrcs).isEmpty then r else castlingAfter r ch

theorem rightsAfter_zero (r : Rights) : rightsAfter r 0#64 = r := by simp [rightsAfter, BB.isEmpty]

/-- `update_castling` always amounts to: key of the old rights out, new rights in, their key in
(when the rights stay, the two keys cancel) -/
theorem updateCastling_eq (b : Board) (ch : BB) :
    updateCastling b ch = ((b.xorHash (zCastling b.r.castling)).setCastling (rightsAfter b.r.castling ch)).xorHash
      (zCastling (rightsAfter b.r.castling ch)) := by
  have same : ((b.xorHash (zCastling b.r.castling)).setCastling b.r.castling).xorHash (zCastling b.r.castling) = b := by
    cases b with | mk r _ _ _ _ _ =>
      cases r
      simp [Board.xorHash, Board.setCastling, BitVec.xor_assoc]
  unfold updateCastling rightsAfter
  split
  · exact same.symm
  · split
    · rfl
    · rename_i h; simp only [ne_eq, Decidable.not_not] at h; rw [h]; exact same.symm

/-- `if src_cell != pawn { update_castling(b, change) }` as one call -/
theorem ite_updateCastling (p : Prop) [Decidable p] (b : Board) (ch : BB) :
    (if p then updateCastling b ch else b) = updateCastling b (if p then ch else 0#64) := by
  split
  · rfl
  · unfold updateCastling; simp [BB.isEmpty]

/-- the stored sets of a consistent board, square by square -/
theorem color_has (b : Board) (hb : Consistent b) (c : Color) (t : Sq) :
    (b.color c).has t = decide ((b.get t).color = some c) := ((consistent_iff' b).mp hb).2.1 c t

theorem all_has (b : Board) (hb : Consistent b) (t : Sq) : b.all.has t = decide (b.get t ≠ 0) := by
  rw [((consistent_iff' b).mp hb).2.2.1, BB.has_or, color_has b hb, color_has b hb]
  generalize b.get t = x
  revert x; decide

theorem color_sub_all (b : Board) (hb : Consistent b) (c : Color) (y : Sq) (h : (b.color c).has y = true) :
    b.all.has y = true := by
  rw [color_has b hb, decide_eq_true_eq] at h
  rw [all_has b hb, decide_eq_true_eq]
  rintro e; rw [e] at h; cases h

end Owl.Lemmas
