/-
Squares in coordinates. A square is `8 * rank + file`; a step of the rules (`Spec.step`) adds to the two coordinates, and
the implementation's unchecked index arithmetic (`addU`) does the same as long as it stays on the board. With these the
geometry of pawn moves — the rules' steps (`geo_*`), the files and ranks `is_well_formed` asks for, and the squares the
generators compute from the destination (`pg_*`) — is linear arithmetic, and it is all here: none of it mentions a board.
-/
import OwlModel.Lemmas.Rays
import OwlModel.Lemmas.Shifts
import OwlModel.Lemmas.SemiView

namespace Owl.Lemmas
open Owl Owl.Impl

theorem sq_coords (s : Sq) : s.val = 8 * s.rank.val + s.file.val ∧ s.file.val < 8 ∧ s.rank.val < 8 := by
  have := s.isLt
  simp only [Sq.file, Sq.rank]; omega

theorem mk_file_ne (f g r : Fin 8) (h : f ≠ g) : Sq.mk f r ≠ Sq.mk g r :=
  fun e => h (by have := congrArg Sq.file e; simpa using this)

/-- the coordinates of the rules are those of `Sq`. Not closed by a bare `rfl`: `simp` would then apply them by definitional
unfolding only and leave the instances of surrounding `decide`s behind, which blocks `decide_eq_true_eq` -/
theorem spec_file (s : Sq) : Spec.file s = s.file.val := by unfold Spec.file; rfl
theorem spec_rank (s : Sq) : Spec.rank s = s.rank.val := by unfold Spec.rank; rfl

theorem step_iff (s t : Sq) (df dr : Int) :
    Spec.step s (df, dr) = some t ↔ ((t.file.val : Int) = s.file.val + df ∧ (t.rank.val : Int) = s.rank.val + dr) :=
  step_eq_some s t (df, dr)

theorem addU_val (s : Sq) (d : Int) (h : 0 ≤ (s.val : Int) + d ∧ (s.val : Int) + d < 64) :
    ((addU s d).val : Int) = s.val + d := by
  unfold addU; simp only; have := s.isLt; omega

theorem addU_coords (s : Sq) (df dr : Int) (hf : 0 ≤ (s.file.val : Int) + df ∧ (s.file.val : Int) + df < 8)
    (hr : 0 ≤ (s.rank.val : Int) + dr ∧ (s.rank.val : Int) + dr < 8) :
    ((addU s (8 * dr + df)).file.val : Int) = s.file.val + df
      ∧ ((addU s (8 * dr + df)).rank.val : Int) = s.rank.val + dr := by
  have hs := sq_coords s
  have hv := addU_val s (8 * dr + df) (by omega)
  have ht := sq_coords (addU s (8 * dr + df))
  omega

/-- a step of the rules is index arithmetic that stays on the board -/
theorem step_addU (s t : Sq) (df dr : Int) :
    Spec.step s (df, dr) = some t ↔
      (((0 ≤ (s.file.val : Int) + df ∧ (s.file.val : Int) + df < 8) ∧ (0 ≤ (s.rank.val : Int) + dr ∧ (s.rank.val : Int) + dr < 8))
        ∧ t = addU s (8 * dr + df)) := by
  rw [step_iff]
  have ht := sq_coords t
  constructor
  · intro ⟨h1, h2⟩
    have h := addU_coords s df dr (by omega) (by omega)
    exact ⟨⟨by omega, by omega⟩, Props.C18.sq_ext (show t.file.val = (addU s (8 * dr + df)).file.val by omega)
      (show t.rank.val = (addU s (8 * dr + df)).rank.val by omega)⟩
  · rintro ⟨⟨hf, hr⟩, rfl⟩
    exact addU_coords s df dr hf hr

/-- the index deltas of a pawn are its steps in the rules, forwards and (for the generators' `dst - delta`) backwards -/
theorem forwardDelta_eq (c : Color) : forwardDelta c = 8 * Spec.forward c + 0 := by cases c <;> rfl
theorem neg_forwardDelta_eq (c : Color) : -(forwardDelta c) = 8 * -Spec.forward c + 0 := by cases c <;> rfl
theorem neg_leftDelta_eq (c : Color) : -(leftDelta c) = 8 * -Spec.forward c + 1 := by cases c <;> rfl
theorem neg_rightDelta_eq (c : Color) : -(rightDelta c) = 8 * -Spec.forward c + -1 := by cases c <;> rfl

theorem rankStep_iff (c : Color) (s d : Sq) : rankStep c s d ↔ (d.rank.val : Int) = s.rank.val + Spec.forward c := by
  cases c <;> simp only [rankStep, Spec.forward] <;> omega

/-- a pawn's push and capture steps in the rules, against the file / rank conditions of `is_well_formed` -/
theorem geo_push (c : Color) (s d : Sq) :
    (Spec.step s (0, Spec.forward c) = some d ↔ (s.file = d.file ∧ rankStep c s d)) := by
  rw [step_iff, rankStep_iff, fin8_eq]; omega

theorem geo_cap (c : Color) (s d : Sq) :
    ((Spec.step s (-1, Spec.forward c) = some d ∨ Spec.step s (1, Spec.forward c) = some d)
      ↔ (absDiff s.file.val d.file.val = 1 ∧ rankStep c s d)) := by
  rw [step_iff, step_iff, rankStep_iff, (absDiff_iff _ _).1]; omega

theorem geo_ahead (c : Color) (s d : Sq) :
    ([(-1 : Int), 0, 1].any fun df => Spec.step s (df, Spec.forward c) == some d) = true ↔
      (absDiff s.file.val d.file.val ≤ 1 ∧ rankStep c s d) := by
  simp only [List.any_cons, List.any_nil, Bool.or_false, Bool.or_eq_true, beq_iff_eq]
  rw [or_left_comm, geo_push, geo_cap, (absDiff_iff _ _).2.2, (absDiff_iff _ _).1, fin8_eq]
  exact or_and_right.symm

/-- the guard of the shifted pawn sets says that the square behind (by `df` files) exists -/
theorem behind_guard (c : Color) (d : Sq) (df : Int) (hdf : df = 1 ∨ df = -1 ∨ df = 0) :
    ((0 ≤ (d.file.val : Int) + df ∧ (d.file.val : Int) + df < 8)
        ∧ (0 ≤ (d.rank.val : Int) + -Spec.forward c ∧ (d.rank.val : Int) + -Spec.forward c < 8))
      ↔ (d.rank ≠ behindRank c ∧ (df = 1 → d.file ≠ 7) ∧ (df = -1 → d.file ≠ 0)) := by
  have hd := sq_coords d
  have h7 : (7 : Fin 8).val = 7 := rfl
  have h0 : (0 : Fin 8).val = 0 := rfl
  rw [Ne, Ne, Ne, fin8_eq, fin8_eq, fin8_eq]
  cases c <;> simp only [Spec.forward, behindRank] <;> omega

/-- the home squares of the rules are those of `castling_rank` -/
theorem sqOf_eq (c : Color) (f : Fin 8) : Spec.sqOf f (Spec.homeRank c) = Sq.mk f (castlingRank c) := by
  cases c <;> rfl

/-- the ranks a pawn's special moves start and end on, white's and black's -/
theorem promoteRank_val : ((promoteSrcRank .white).val = 1 ∧ (promoteDstRank .white).val = 0)
    ∧ (promoteSrcRank .black).val = 6 ∧ (promoteDstRank .black).val = 7 := by decide
theorem doubleRank_val : ((doubleSrcRank .white).val = 6 ∧ (doubleDstRank .white).val = 4)
    ∧ (doubleSrcRank .black).val = 1 ∧ (doubleDstRank .black).val = 3 := by decide
theorem epRank_val : ((epSrcRank .white).val = 3 ∧ (epDstRank .white).val = 2)
    ∧ (epSrcRank .black).val = 4 ∧ (epDstRank .black).val = 5 := by decide

/-- one rank ahead is short of the last rank unless the pawn promotes -/
theorem pg_ranks (c : Color) (s d : Sq) (h : rankStep c s d) :
    (d.rank.val ≠ 0 ∧ d.rank.val ≠ 7) ↔ s.rank ≠ promoteSrcRank c := by
  obtain ⟨⟨w1, w2⟩, b1, b2⟩ := promoteRank_val
  have := d.rank.isLt
  rw [ne_eq s.rank, fin8_eq]
  cases c <;> simp only [rankStep] at h <;> omega

theorem pg_promo (c : Color) (s d : Sq) (hs : s.rank = promoteSrcRank c) :
    (d.rank = promoteDstRank c ↔ rankStep c s d) := by
  obtain ⟨⟨w1, w2⟩, b1, b2⟩ := promoteRank_val
  rw [fin8_eq] at hs ⊢
  cases c <;> simp only [rankStep] <;> omega

theorem pg_promo_iff (c : Color) (s d : Sq) (h : rankStep c s d) :
    s.rank = promoteSrcRank c ↔ d.rank = promoteDstRank c := by
  obtain ⟨⟨w1, w2⟩, b1, b2⟩ := promoteRank_val
  rw [fin8_eq, fin8_eq]
  cases c <;> simp only [rankStep] at h <;> omega

/-- the promotion rank of the rules is `promote_dst_rank` -/
theorem promoRank_iff (c : Color) (d : Sq) : Spec.rank d = Spec.promoRank c ↔ d.rank = promoteDstRank c := by
  rw [fin8_eq]; cases c <;> exact Iff.rfl

/-- the source of a push or a capture as the generator finds it, one index step behind the destination -/
theorem pg_push (c : Color) (s d : Sq) :
    ((s.file = d.file ∧ rankStep c s d) ↔ (d.rank ≠ behindRank c ∧ s = addU d (-(forwardDelta c)))) := by
  rw [← geo_push, step_neg]
  simp only [negDir, Int.neg_zero]
  rw [step_addU, behind_guard c d 0 (Or.inr (Or.inr rfl)), neg_forwardDelta_eq]
  simp

theorem pg_cap (c : Color) (s d : Sq) :
    ((absDiff s.file.val d.file.val = 1 ∧ rankStep c s d) ↔
      (((d.rank ≠ behindRank c ∧ d.file ≠ 7) ∧ s = addU d (-(leftDelta c)))
       ∨ ((d.rank ≠ behindRank c ∧ d.file ≠ 0) ∧ s = addU d (-(rightDelta c))))) := by
  rw [← geo_cap, step_neg s d, step_neg s d]
  simp only [negDir, Int.neg_neg]
  rw [step_addU, step_addU, ← neg_leftDelta_eq, ← neg_rightDelta_eq, behind_guard c d 1 (Or.inl rfl),
    behind_guard c d (-1) (Or.inr (Or.inl rfl))]
  simp

theorem step_fwd_addU (c : Color) (s t : Sq) (h : Spec.step s (0, Spec.forward c) = some t) :
    t = addU s (forwardDelta c) := by
  rw [forwardDelta_eq]; exact ((step_addU s t 0 _).mp h).2

theorem pg_ahead (c : Color) (s t : Sq) (h : s.file = t.file ∧ rankStep c s t) : addU s (forwardDelta c) = t :=
  (step_fwd_addU c s t ((geo_push c s t).mpr h)).symm

/-- off the first and the last rank the square ahead of a pawn is on the board -/
theorem ahead (c : Color) (s : Sq) (h : 0 < s.rank.val ∧ s.rank.val < 7) :
    Spec.step s (0, Spec.forward c) = some (addU s (forwardDelta c)) := by
  have hs := sq_coords s
  rw [forwardDelta_eq, step_addU]
  refine ⟨⟨by omega, ?_⟩, rfl⟩
  cases c <;> simp only [Spec.forward] <;> omega

theorem step_not_double (c : Color) (s d : Sq) (h : rankStep c s d) :
    ¬ (s.rank = doubleSrcRank c ∧ d.rank = doubleDstRank c) := by
  obtain ⟨⟨w1, w2⟩, b1, b2⟩ := doubleRank_val
  rw [fin8_eq, fin8_eq]
  cases c <;> simp only [rankStep] at h <;> omega

theorem double_ne_ep (c : Color) : doubleSrcRank c ≠ epSrcRank c := by cases c <;> decide

/-- two steps back, as the double-step loop finds its pawns and as it names the source -/
theorem pg_double2 (c : Color) : ∀ d : Sq, d.rank ≠ behindRank c → (addU d (-(forwardDelta c))).rank ≠ behindRank c →
    addU (addU d (-(forwardDelta c))) (-(forwardDelta c)) = addU d (-(2 * forwardDelta c)) := by
  cases c <;> decide +kernel

theorem geo_double (c : Color) (s d : Sq) :
    ((s.file = d.file ∧ s.rank = doubleSrcRank c ∧ d.rank = doubleDstRank c) ↔
      (Spec.rank s = Spec.pawnStartRank c ∧ Spec.step s (0, Spec.forward c) = some (addU s (forwardDelta c))
        ∧ Spec.step (addU s (forwardDelta c)) (0, Spec.forward c) = some d)) := by
  have hc : Spec.pawnStartRank c = (doubleSrcRank c).val ∧ 0 < (doubleSrcRank c).val ∧ (doubleSrcRank c).val < 7
      ∧ ((doubleDstRank c).val : Int) = (doubleSrcRank c).val + 2 * Spec.forward c := by cases c <;> decide
  rw [spec_rank, fin8_eq, fin8_eq, fin8_eq]
  constructor
  · rintro ⟨hf, hs, hd⟩
    have hA := ahead c s (by omega)
    obtain ⟨a1, a2⟩ := (step_iff _ _ _ _).mp hA
    exact ⟨by omega, hA, (step_iff _ _ _ _).mpr ⟨by omega, by omega⟩⟩
  · rintro ⟨hs, hA, hd⟩
    obtain ⟨a1, a2⟩ := (step_iff _ _ _ _).mp hA
    obtain ⟨b1, b2⟩ := (step_iff _ _ _ _).mp hd
    exact ⟨by omega, by omega, by omega⟩

/-- a double step is two single steps through the square between, which is both the one ahead of the source (as
`is_well_formed` and the rules see it) and the one behind the destination (as the generator finds it): the generator's guards
and `dst - 2·delta` against the files and ranks of `is_well_formed` -/
theorem pg_double (c : Color) (s d : Sq) :
    ((s.file = d.file ∧ s.rank = doubleSrcRank c ∧ d.rank = doubleDstRank c) ↔
      (d.rank ≠ behindRank c ∧ (addU d (-(forwardDelta c))).rank ≠ behindRank c
        ∧ s = addU d (-(2 * forwardDelta c)) ∧ s.rank = doubleSrcRank c))
    ∧ (s.file = d.file → s.rank = doubleSrcRank c → d.rank = doubleDstRank c →
        addU s (forwardDelta c) = addU d (-(forwardDelta c))) := by
  have fwd : s.file = d.file ∧ s.rank = doubleSrcRank c ∧ d.rank = doubleDstRank c →
      (d.rank ≠ behindRank c ∧ addU s (forwardDelta c) = addU d (-(forwardDelta c)))
        ∧ (addU d (-(forwardDelta c))).rank ≠ behindRank c ∧ s = addU (addU d (-(forwardDelta c))) (-(forwardDelta c)) := by
    intro h
    obtain ⟨-, h1, h2⟩ := (geo_double c s d).mp h
    obtain ⟨k1, e1⟩ := (pg_push c _ d).mp ((geo_push c _ d).mp h2)
    rw [e1] at h1
    exact ⟨⟨k1, e1⟩, (pg_push c s _).mp ((geo_push c s _).mp h1)⟩
  refine ⟨⟨fun h => ?_, fun ⟨k1, k2, e, hs⟩ => ?_⟩, fun hf hs hd => (fwd ⟨hf, hs, hd⟩).1.2⟩
  · obtain ⟨⟨k1, -⟩, k2, e⟩ := fwd h
    exact ⟨k1, k2, e.trans (pg_double2 c d k1 k2), h.2.1⟩
  · rw [← pg_double2 c d k1 k2] at e
    have p1 := (pg_push c s _).mpr ⟨k2, e⟩
    have p2 := (pg_push c _ d).mpr ⟨k1, rfl⟩
    have ha := pg_ahead c s _ p1
    rw [← ha] at p1 p2
    exact (geo_double c s d).mpr ⟨by rw [spec_rank, hs]; cases c <;> rfl, (geo_push c _ _).mpr p1, (geo_push c _ _).mpr p2⟩

/-- squares side by side on a rank are one apart in the index -/
theorem beside (s e : Sq) (hr : e.rank.val = s.rank.val)
    (hD : s.file.val + 1 = e.file.val ∨ e.file.val + 1 = s.file.val) : e = addU s 1 ∨ e = addU s (-1) := by
  have hs := sq_coords s
  have he := sq_coords e
  rw [Fin.ext_iff, Fin.ext_iff]
  rcases hD with h | h
  · left; have := addU_val s 1 (by omega); omega
  · right; have := addU_val s (-1) (by omega); omega

theorem geo_ep (c : Color) : ∀ s e : Sq, e.rank = epSrcRank c →
    ((((Spec.step s (-1, Spec.forward c) = some (addU e (forwardDelta c))
        ∨ Spec.step s (1, Spec.forward c) = some (addU e (forwardDelta c)))
       ∧ Spec.step e (0, Spec.forward c) = some (addU e (forwardDelta c)) ∧ Spec.rank e = Spec.rank s)) ↔
     (s.rank = epSrcRank c ∧ (addU e (forwardDelta c)).rank = epDstRank c
       ∧ absDiff s.file.val (addU e (forwardDelta c)).file.val = 1 ∧ (e = addU s 1 ∨ e = addU s (-1)))) := by
  intro s e he
  have hc : 0 < (epSrcRank c).val ∧ (epSrcRank c).val < 7
      ∧ ((epDstRank c).val : Int) = (epSrcRank c).val + Spec.forward c := by cases c <;> decide
  have hT := ahead c e (by rw [he]; exact ⟨hc.1, hc.2.1⟩)
  obtain ⟨t1, t2⟩ := (step_iff _ _ _ _).mp hT
  rw [geo_cap, rankStep_iff, (absDiff_iff _ _).1, spec_rank, spec_rank, fin8_eq, fin8_eq]
  rw [fin8_eq] at he
  constructor
  · rintro ⟨⟨hD, h1⟩, _, h2⟩
    exact ⟨by omega, by omega, hD, beside s e h2 (by omega)⟩
  · rintro ⟨h1, _, hD, _⟩
    exact ⟨⟨hD, by omega⟩, hT, by omega⟩

/-- en passant: the pawn beside the marked one aiming at the square ahead of it, against the two neighbours of the marked
pawn the generator tries (checked square by square) -/
theorem pg_ep (c : Color) : ∀ p s : Sq, p.rank = epSrcRank c →
    ((s.rank = epSrcRank c ∧ (addU p (forwardDelta c)).rank = epDstRank c
        ∧ absDiff s.file.val (addU p (forwardDelta c)).file.val = 1 ∧ (p = addU s 1 ∨ p = addU s (-1))) ↔
      ((p.file ≠ fileA ∧ s = addU p (-1)) ∨ (p.file ≠ fileH ∧ s = addU p 1))) := by
  cases c <;> decide +kernel

/-! `Coord::add` behind a pawn's destination (the backward step of the SAN reader's `into_move`) -/

theorem add?_eq_some (t s : Sq) (δ : Int) : t.add? δ = some s ↔ (s.val : Int) = t.val + δ := by
  have := s.isLt
  unfold Sq.add?
  by_cases h : 0 ≤ (t.val : Int) + δ ∧ (t.val : Int) + δ < 64
  · simp only [h, and_self, dite_true, Option.some.injEq, Fin.ext_iff]; omega
  · simp only [h, dite_false, reduceCtorEq, false_iff]; omega

/-- the square `into_move` steps back to from the rank of `d` on file `f`: the one a pawn on file `f` reaches that rank
from -/
theorem back_iff (c : Color) (f : Fin 8) (d s : Sq) :
    (Sq.mk f d.rank).add? (-(forwardDelta c)) = some s ↔ (s.file = f ∧ rankStep c s d) := by
  have hm := sq_coords (Sq.mk f d.rank)
  have hs := sq_coords s
  rw [Sq.file_mk, Sq.rank_mk] at hm
  rw [add?_eq_some, fin8_eq]
  cases c <;> simp only [forwardDelta, Gen.forwardDeltaW, Gen.forwardDeltaB, rankStep] <;> omega

/-- … and no pawn steps onto the rank `into_move` refuses beforehand -/
theorem rankStep_dst {c : Color} {s d : Sq} (h : rankStep c s d) : d.rank ≠ promoteDstRank c.inv := by
  have := s.rank.isLt
  obtain ⟨⟨_, w⟩, _, k⟩ := promoteRank_val
  rw [Ne, fin8_eq]
  revert h
  cases c <;> simp only [rankStep, Color.inv] <;> omega

/-- a double step, file by file: the destination is not on the refused rank and the square behind it is the one ahead of
the source -/
theorem back_double (c : Color) : ∀ f : Fin 8,
    (doubleDstRank c ≠ promoteDstRank c.inv)
    ∧ (Sq.mk f (doubleDstRank c)).add? (-(forwardDelta c)) = some (addU (Sq.mk f (doubleSrcRank c)) (forwardDelta c)) := by
  cases c <;> decide

end Owl.Lemmas
