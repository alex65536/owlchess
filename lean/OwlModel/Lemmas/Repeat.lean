/-
The repetition table (`HashRepeat`, a `HashMap<u64, usize>` modelled as an association list) behaves as a finite
multiset of hashes: `push` raises one count, `pop` lowers it and never panics when the count is positive.
-/
import OwlModel.Impl.Chain

namespace Owl.Lemmas
open Owl Owl.Impl

/-- the association list behaves as a finite map: keys distinct, no zero counts -/
def RepWf : Repeat → Prop
  | [] => True
  | e :: r => e.2 ≠ 0 ∧ (∀ x ∈ r, x.1 ≠ e.1) ∧ RepWf r

theorem count_nil (h : BB) : Repeat.count [] h = 0 := rfl

theorem count_cons (e : BB × Nat) (r : Repeat) (h : BB) :
    Repeat.count (e :: r) h = if e.1 = h then e.2 else Repeat.count r h := by
  unfold Repeat.count
  by_cases he : e.1 = h
  · simp [List.find?, he]
  · have : (e.1 == h) = false := by simpa using he
    simp [List.find?, this, he]

theorem count_eq_zero_of_not_mem (r : Repeat) (h : BB) (hn : ∀ x ∈ r, x.1 ≠ h) : Repeat.count r h = 0 := by
  unfold Repeat.count
  rw [List.find?_eq_none.mpr (fun x hx => by simpa using hn x hx)]
  rfl

theorem repWf_iff (r : Repeat) : RepWf r ↔ (∀ e ∈ r, e.2 ≠ 0) ∧ (r.map (·.1)).Nodup := by
  induction r with
  | nil => simp [RepWf]
  | cons e r ih =>
    simp only [RepWf, ih, List.mem_cons, forall_eq_or_imp, List.map_cons, List.nodup_cons, List.mem_map, not_exists,
      not_and]
    constructor
    · intro ⟨a, b, c, d⟩; exact ⟨⟨a, c⟩, b, d⟩
    · intro ⟨⟨a, c⟩, b, d⟩; exact ⟨a, b, c, d⟩

/-- both table operations rewrite the count stored under one key and leave every key in place -/
def upd (h : BB) (g : Nat → Nat) (r : Repeat) : Repeat := r.map fun e => if e.1 == h then (e.1, g e.2) else e

theorem upd_keys (h : BB) (g : Nat → Nat) (r : Repeat) : (upd h g r).map (·.1) = r.map (·.1) := by
  unfold upd
  rw [List.map_map]
  apply List.map_congr_left
  intro e _
  simp only [Function.comp]
  split <;> rfl

theorem count_upd (h : BB) (g : Nat → Nat) (r : Repeat) (h' : BB) (hm : r.any (fun e => e.1 == h) = true) :
    Repeat.count (upd h g r) h' = if h' = h then g (Repeat.count r h') else Repeat.count r h' := by
  have hp : ((fun e : BB × Nat => e.1 == h') ∘ fun e => if e.1 == h then (e.1, g e.2) else e) = fun e => e.1 == h' := by
    funext e; simp only [Function.comp]; split <;> rfl
  unfold Repeat.count upd
  rw [List.find?_map, hp]
  cases hf : r.find? (fun e => e.1 == h') with
  | none =>
    have : ¬ h' = h := fun e => by
      subst e
      obtain ⟨x, hx, hxh⟩ := List.any_eq_true.mp hm
      exact absurd hxh (by simpa using List.find?_eq_none.mp hf x hx)
    simp [this]
  | some e =>
    have he : e.1 = h' := by simpa using List.find?_some hf
    simp only [Option.map_some, Option.getD_some, ← he, beq_iff_eq]
    split <;> rfl

theorem count_filter (r : Repeat) (hk : (r.map (·.1)).Nodup) (h : BB) :
    Repeat.count (r.filter fun e => e.2 ≠ 0) h = Repeat.count r h := by
  induction r with
  | nil => rfl
  | cons e r ih =>
    rw [List.map_cons, List.nodup_cons] at hk
    rw [List.filter_cons]
    split
    · rw [count_cons, count_cons, ih hk.2]
    · rename_i h0
      rw [count_cons, ih hk.2]
      split
      · rename_i he
        rw [count_eq_zero_of_not_mem r h (fun x hx e => hk.1 (List.mem_map.mpr ⟨x, hx, e.trans he.symm⟩))]
        exact (by simpa using h0 : e.2 = 0).symm
      · rfl

/-- `HashRepeat::push` -/
theorem push_spec (r : Repeat) (h : BB) (hw : RepWf r) :
    RepWf (r.push h) ∧ ∀ h', (r.push h).count h' = r.count h' + (if h' = h then 1 else 0) := by
  rw [repWf_iff] at hw ⊢
  unfold Repeat.push
  split
  · rename_i ha
    refine ⟨⟨fun e he => ?_, (upd_keys h (· + 1) r).symm ▸ hw.2⟩, fun h' => ?_⟩
    · obtain ⟨x, hx, rfl⟩ := List.mem_map.mp he
      split
      · exact Nat.succ_ne_zero _
      · exact hw.1 x hx
    · exact (count_upd h (· + 1) r h' ha).trans (by split <;> rfl)
  · rename_i ha
    have hn : ∀ x ∈ r, x.1 ≠ h := fun x hx e => ha (List.any_eq_true.mpr ⟨x, hx, beq_iff_eq.mpr e⟩)
    refine ⟨⟨?_, ?_⟩, fun h' => ?_⟩
    · intro e he
      rcases List.mem_cons.mp he with rfl | he
      · exact Nat.one_ne_zero
      · exact hw.1 e he
    · rw [List.map_cons, List.nodup_cons]
      exact ⟨fun hm => by obtain ⟨x, hx, e⟩ := List.mem_map.mp hm; exact hn x hx e, hw.2⟩
    · rw [count_cons]
      by_cases hh : h = h'
      · subst hh; simp [count_eq_zero_of_not_mem r h hn]
      · simp [hh, Ne.symm hh]

/-- `HashRepeat::pop` -/
theorem pop_spec (r : Repeat) (h : BB) (hw : RepWf r) (hc : r.count h ≠ 0) :
    ∃ r', r.pop? h = some r' ∧ RepWf r' ∧ ∀ h', r'.count h' = r.count h' - (if h' = h then 1 else 0) := by
  have ha : r.any (fun e => e.1 == h) = true :=
    Decidable.by_contra fun hn =>
      hc (count_eq_zero_of_not_mem r h fun x hx e => hn (List.any_eq_true.mpr ⟨x, hx, beq_iff_eq.mpr e⟩))
  have hpop : r.pop? h = some ((upd h (· - 1) r).filter fun e => e.2 ≠ 0) := by
    unfold Repeat.pop?
    rw [if_pos ha]
    rfl
  rw [repWf_iff] at hw
  have hk : ((upd h (· - 1) r).map (·.1)).Nodup := by rw [upd_keys]; exact hw.2
  refine ⟨_, hpop, ?_, fun h' => ?_⟩
  · rw [repWf_iff]
    exact ⟨fun e he => by simpa using (List.mem_filter.mp he).2, (List.filter_sublist.map _).nodup hk⟩
  · rw [count_filter _ hk, count_upd h (· - 1) r h' ha]
    split <;> rfl

theorem count_pos_of_mem (r : Repeat) (hw : RepWf r) (h : BB) (hm : ∃ x ∈ r, x.1 = h) : Repeat.count r h ≠ 0 := by
  induction r with
  | nil => obtain ⟨x, hx, _⟩ := hm; cases hx
  | cons e r ih =>
    rw [count_cons]
    by_cases he : e.1 = h
    · rw [if_pos he]; exact hw.1
    · rw [if_neg he]
      obtain ⟨x, hx, hxh⟩ := hm
      rcases List.mem_cons.mp hx with rfl | hx
      · exact absurd hxh he
      · exact ih hw.2.2 ⟨x, hx, hxh⟩

/-- the table counts the occurrences in the list `l` of hashes; the chain invariant uses the table only through the
three lemmas below -/
def Counts (r : Repeat) (l : List BB) : Prop := RepWf r ∧ ∀ h, r.count h = l.count h

theorem Counts.nil : Counts [] [] := ⟨trivial, fun _ => rfl⟩

theorem Counts.push {r : Repeat} {l : List BB} (hc : Counts r l) (h : BB) : Counts (r.push h) (l ++ [h]) := by
  obtain ⟨w, c⟩ := push_spec r h hc.1
  refine ⟨w, fun x => ?_⟩
  simp only [c, hc.2, List.count_append, List.count_singleton, beq_iff_eq, @eq_comm _ h x]

theorem Counts.pop {r : Repeat} {l : List BB} {h : BB} (hc : Counts r (l ++ [h])) :
    ∃ r', r.pop? h = some r' ∧ Counts r' l := by
  obtain ⟨r', e, w, c⟩ := pop_spec r h hc.1 (by rw [hc.2]; simp)
  refine ⟨r', e, w, fun x => ?_⟩
  simp only [c, hc.2, List.count_append, List.count_singleton, beq_iff_eq, @eq_comm _ h x]
  omega

end Owl.Lemmas
