/-
`Move::is_well_formed` together with `do_is_move_semilegal`, said once: `sl_iff` describes a well-formed semilegal move
kind by kind (`Semi`) in the terms the two functions themselves use, and `sl_cases` is the same as an elimination rule.
Everything that needs to know what such a move looks like goes through them. `is_well_formed` itself is read in
`isWellFormed_mk` / `isWellFormed_empty` and nowhere else.
-/
import OwlModel.Lemmas.Cells
import OwlModel.Impl.MoveGen

namespace Owl.Lemmas
open Owl Owl.Impl

/-- `Fin.ext_iff` for files and ranks only: as a rewrite rule it leaves equations between squares (`Fin 64`) and cells
(`Fin 13`) alone -/
theorem fin8_eq {a b : Fin 8} : a = b ↔ a.val = b.val := Fin.ext_iff

theorem absDiff_iff (a b : Nat) : (absDiff a b = 1 ↔ (a + 1 = b ∨ b + 1 = a)) ∧ (absDiff a b = 0 ↔ a = b)
    ∧ (absDiff a b ≤ 1 ↔ (a = b ∨ a + 1 = b ∨ b + 1 = a)) := by
  unfold absDiff; split <;> omega

theorem file_ne_of_diff {s d : Sq} (h : absDiff s.file.val d.file.val = 1) : s.file ≠ d.file := by
  rw [(absDiff_iff _ _).1] at h
  rw [Ne, fin8_eq]; omega

theorem diff_of_file_ne {s d : Sq} (h1 : absDiff s.file.val d.file.val ≤ 1) (h2 : s.file ≠ d.file) :
    absDiff s.file.val d.file.val = 1 := by
  rw [(absDiff_iff _ _).2.2] at h1
  rw [Ne, fin8_eq] at h2
  rw [(absDiff_iff _ _).1]; omega

theorem empty_not_own (b : Board) {d : Sq} (he : b.get d = Cell.empty) : (b.get d).color ≠ some b.r.side := by
  rw [he]; exact fun h => nomatch h

/-- well-formed and semilegal -/
def SL (b : Board) (mv : Move) : Prop := mv.isWellFormed = true ∧ isSemilegal b mv = true

theorem semilegal_base (b : Board) (mv : Move) (hsl : isSemilegal b mv = true) :
    mv.kind ≠ .null ∧ b.get mv.src = mv.cell ∧ mv.cell.color = some b.r.side
      ∧ (b.get mv.dst).color ≠ some b.r.side := by
  unfold isSemilegal at hsl
  simp only at hsl
  split at hsl
  · simp at hsl
  · rename_i hcond
    simp only [Bool.or_eq_true, decide_eq_true_eq, not_or, ne_eq, Decidable.not_not] at hcond
    exact ⟨hcond.1.1.1, hcond.1.1.2, hcond.1.2, hcond.2⟩

def rankStep (c : Color) (s d : Sq) : Prop :=
  match c with
  | .white => s.rank.val = d.rank.val + 1
  | .black => s.rank.val + 1 = d.rank.val

instance (c : Color) (s d : Sq) : Decidable (rankStep c s d) := by
  unfold rankStep; cases c <;> exact inferInstance

/-- what `is_well_formed` asks of a `simple` move of a piece -/
def pieceGeom : Piece → Sq → Sq → Bool
  | .king, s, d => (kingAttack s).has d
  | .knight, s, d => (knightAttack s).has d
  | .bishop, s, d => isBishopValid s d
  | .rook, s, d => isRookValid s d
  | .queen, s, d => isBishopValid s d || isRookValid s d
  | .pawn, _, _ => false

/-- what `do_is_move_semilegal` asks of a `simple` move of a piece: a free path for the sliders -/
def pieceClear : Piece → Sq → Sq → BB → Bool
  | .bishop, s, d, all => (bishopStrict s d &&& all).isEmpty
  | .rook, s, d, all => (rookStrict s d &&& all).isEmpty
  | .queen, s, d, all => isQueenSemilegal s d all
  | _, _, _, _ => true

/-- the attack set a non-pawn piece moves along -/
def pieceAttack (p : Piece) (s : Sq) (all : BB) : BB :=
  match p with
  | .knight => knightAttack s
  | .king => kingAttack s
  | .bishop => bishopAttack s all
  | .rook => rookAttack s all
  | .queen => bishopAttack s all ||| rookAttack s all
  | .pawn => 0#64

def PawnTo (b : Board) (s d : Sq) : Prop :=
  (s.file = d.file ∧ b.get d = Cell.empty) ∨ (absDiff s.file.val d.file.val = 1 ∧ (b.get d).color = some b.r.side.inv)

/-- `is_well_formed ∧ is_semilegal`, kind by kind, for a man `p` of the side to move going from `s` to `d`
(that the man stands on `s` is in `sl_iff`). The conditions of every kind imply `s ≠ d` and that no own man stands on `d`
(`Semi.ne`, `Semi.not_own` in Lemmas/SemiChar.lean); where the two functions test the latter by itself it is the last
premise. `pieceGeom .pawn` is false, so `piece` is about the five pieces -/
inductive Semi (b : Board) : Kind → Piece → Sq → Sq → Prop
  | piece {p s d} : pieceGeom p s d = true → pieceClear p s d b.all = true → (b.get d).color ≠ some b.r.side →
      Semi b .simple p s d
  | pawn {s d} : s.rank.val ≠ 0 → s.rank.val ≠ 7 → d.rank.val ≠ 0 → d.rank.val ≠ 7 → rankStep b.r.side s d →
      PawnTo b s d → Semi b .simple .pawn s d
  | promo {k s d} : k.promote.isSome = true → s.rank = promoteSrcRank b.r.side → d.rank = promoteDstRank b.r.side →
      PawnTo b s d → Semi b k .pawn s d
  | double {s d} : s.file = d.file → s.rank = doubleSrcRank b.r.side → d.rank = doubleDstRank b.r.side →
      b.get (addU s (forwardDelta b.r.side)) = Cell.empty → b.get d = Cell.empty → Semi b .double .pawn s d
  | ep {s d} (p : Sq) : s.rank = epSrcRank b.r.side → d.rank = epDstRank b.r.side → absDiff s.file.val d.file.val = 1 →
      b.r.ep = some p → (p = addU s 1 ∨ p = addU s (-1)) → d = addU p (forwardDelta b.r.side) →
      (b.get d).color ≠ some b.r.side → Semi b .ep .pawn s d
  | castleK {s d} : s = Sq.mk fileE (castlingRank b.r.side) → d = Sq.mk fileG (castlingRank b.r.side) →
      rHas b.r.castling b.r.side .king = true → (b.all &&& castlingPass b.r.side .king).isEmpty = true →
      isCellAttacked b s b.r.side.inv = false → isCellAttacked b (addU s 1) b.r.side.inv = false →
      (b.get d).color ≠ some b.r.side → Semi b .castleK .king s d
  | castleQ {s d} : s = Sq.mk fileE (castlingRank b.r.side) → d = Sq.mk fileC (castlingRank b.r.side) →
      rHas b.r.castling b.r.side .queen = true → (b.all &&& castlingPass b.r.side .queen).isEmpty = true →
      isCellAttacked b s b.r.side.inv = false → isCellAttacked b (addU s (-1)) b.r.side.inv = false →
      (b.get d).color ≠ some b.r.side → Semi b .castleQ .king s d

/-- `Kind::matches_piece`, read both ways: the kinds of a pawn and of the other men, the man of a castling and of a pawn's
own kinds -/
def KindFits (k : Kind) (p : Piece) : Prop :=
  (p = .pawn → k ≠ .null ∧ k ≠ .castleK ∧ k ≠ .castleQ) ∧ (p ≠ .pawn → k = .simple ∨ k = .castleK ∨ k = .castleQ)
    ∧ (k = .castleK ∨ k = .castleQ → p = .king) ∧ (k = .double ∨ k = .ep ∨ k.promote.isSome = true → p = .pawn)

theorem matchesPiece_kinds {k : Kind} {p : Piece} (h : k.matchesPiece p = true) : KindFits k p := by
  cases k <;> simp only [Kind.matchesPiece, beq_iff_eq, Bool.false_eq_true] at h <;> (try subst h) <;>
    simp [KindFits, Kind.promote]

theorem Semi.matches {b : Board} {k : Kind} {p : Piece} {s d : Sq} (h : Semi b k p s d) : k.matchesPiece p = true := by
  cases h with
  | promo hk => revert hk; cases k <;> simp [Kind.promote, Kind.matchesPiece]
  | _ => rfl

theorem Semi.kinds {b : Board} {k : Kind} {p : Piece} {s d : Sq} (h : Semi b k p s d) : KindFits k p :=
  matchesPiece_kinds h.matches

theorem pawnTo_not_own (b : Board) {s d : Sq} (h : PawnTo b s d) : (b.get d).color ≠ some b.r.side := by
  rcases h with ⟨_, he⟩ | ⟨_, hc⟩
  · exact empty_not_own b he
  · rw [hc]; exact fun e => Color.inv_ne _ (Option.some.inj e)

/-- the pawn clauses of the two functions together: the file may change by at most one (`is_well_formed`), and stays
exactly when the destination is empty (`do_is_move_semilegal`); the destination holds no own man -/
theorem pawnTo_iff (b : Board) (s d : Sq) (hd : (b.get d).color ≠ some b.r.side) :
    (absDiff s.file.val d.file.val ≤ 1 ∧ (decide (d.file = s.file) == decide (b.get d = Cell.empty)) = true) ↔ PawnTo b s d := by
  unfold PawnTo
  rw [color_inv_iff, beq_iff_eq, decide_eq_decide, eq_comm (a := d.file), fin8_eq, ← (absDiff_iff _ _).2.1]
  by_cases he : b.get d = Cell.empty
  · simp only [he, iff_true, and_true, ne_eq, not_true_eq_false, and_false, or_false]; omega
  · simp only [he, iff_false, and_false, false_or, hd, not_false_eq_true, ne_eq, and_true]; omega

def wfgICastle (f : Fin 8) (col : Color) (s d : Sq) : Bool :=
  decide (s = Sq.mk fileE (castlingRank col)) && decide (d = Sq.mk f (castlingRank col))
def wfgIDouble (col : Color) (s d : Sq) : Bool :=
  decide (s.file = d.file) && decide (s.rank = doubleSrcRank col) && decide (d.rank = doubleDstRank col)
def wfgIEp (col : Color) (s d : Sq) : Bool :=
  decide (s.rank = epSrcRank col) && decide (d.rank = epDstRank col)
    && decide (absDiff s.file.val d.file.val = 1)
def wfgIProm (col : Color) (s d : Sq) : Bool :=
  decide (s.rank = promoteSrcRank col) && decide (d.rank = promoteDstRank col)
    && decide (absDiff s.file.val d.file.val ≤ 1)
def wfgIPawn (col : Color) (s d : Sq) : Bool :=
  if absDiff s.file.val d.file.val > 1
      || s.rank.val = 7 || s.rank.val = 0 || d.rank.val = 7 || d.rank.val = 0 then false
  else rankStep col s d
def wfgISimple (col : Color) (pc : Piece) (s d : Sq) : Bool :=
  match pc with
  | .pawn => wfgIPawn col s d
  | pc => pieceGeom pc s d

def wfCore (k : Kind) (col : Color) (pc : Piece) (s d : Sq) : Bool :=
  match k with
  | .null => false
  | .simple => wfgISimple col pc s d
  | .castleK => wfgICastle fileG col s d
  | .castleQ => wfgICastle fileC col s d
  | .double => wfgIDouble col s d
  | .ep => wfgIEp col s d
  | _ => wfgIProm col s d

/-- the one place where `is_well_formed` is read -/
theorem isWellFormed_mk (k : Kind) (col : Color) (pc : Piece) (s d : Sq) :
    Move.isWellFormed ⟨k, Cell.mk col pc, s, d⟩ = (k.matchesPiece pc && (!decide (s = d) && wfCore k col pc s d)) := by
  have h0 : ¬ Cell.mk col pc = 0 := mk_ne_zero col pc
  unfold Move.isWellFormed
  simp only [color_mk, piece_mk, mk_ne_empty, decide_false, Bool.false_or, decide_eq_true_eq]
  -- the piece stays a variable: only `matches_piece` looks at it, except under `simple`, where both sides branch on it alike
  by_cases h : s = d <;> cases hm : k.matchesPiece pc <;> cases k <;>
    simp [Move.null, h0, h, wfCore, wfgICastle, wfgIDouble, wfgIEp, wfgIProm] <;>
    simp [Kind.matchesPiece] at hm
  all_goals (cases pc <;> cases col <;> simp [wfgISimple, wfgIPawn, pieceGeom, rankStep])

theorem isWellFormed_empty (k : Kind) (s d : Sq) :
    Move.isWellFormed ⟨k, Cell.empty, s, d⟩ = (decide (k = .null) && (decide (s.val = 0) && decide (d.val = 0))) := by
  by_cases hk : k = .null
  · subst hk
    show decide ((⟨.null, Cell.empty, s, d⟩ : Move) = Move.null) = _
    rw [Bool.eq_iff_iff]
    simp only [Move.null, Move.mk.injEq, Bool.and_eq_true, decide_eq_true_eq, Fin.ext_iff]
    exact ⟨fun h => ⟨trivial, h.2.2.1, h.2.2.2⟩, fun h => ⟨trivial, rfl, h.2.1, h.2.2⟩⟩
  · simp [Move.isWellFormed, hk]

/-- a move is well-formed and semilegal iff it names a man `p` of the side to move standing on its source, its destination
holds no own man and differs from the source, and the conditions of its kind (`Semi`) hold -/
theorem sl_iff (b : Board) (mv : Move) :
    (mv.isWellFormed = true ∧ isSemilegal b mv = true) ↔
      ∃ p, mv.cell = Cell.mk b.r.side p ∧ b.get mv.src = mv.cell ∧ (b.get mv.dst).color ≠ some b.r.side
        ∧ mv.src ≠ mv.dst ∧ Semi b mv.kind p mv.src mv.dst := by
  obtain ⟨k, x, s, d⟩ := mv
  constructor
  · rintro ⟨hwf, hsl⟩
    obtain ⟨hk, hsrc, hcol, hdst⟩ := semilegal_base b _ hsl
    simp only at hk hsrc hcol hdst
    rcases cell_cases x with rfl | ⟨c, p, rfl⟩
    · cases hcol
    · obtain rfl : c = b.r.side := Option.some.inj ((color_mk c p).symm.trans hcol)
      rw [isWellFormed_mk] at hwf
      simp only [Bool.and_eq_true, Bool.not_eq_true', decide_eq_false_iff_not] at hwf
      obtain ⟨hm, hsd, hc⟩ := hwf
      unfold isSemilegal at hsl
      simp only [color_mk, piece_mk, hk, hsrc, hdst, ne_eq, not_true_eq_false, decide_false, Bool.or_self,
        Bool.false_eq_true, if_false] at hsl
      refine ⟨p, rfl, hsrc, hdst, hsd, ?_⟩
      -- of the 60 pairs (kind, piece) all but 14 fail `matches_piece`
      cases k <;> cases p <;> first
        | exact absurd rfl hk
        | exact Bool.noConfusion hm
        | skip
      all_goals simp only [wfCore, wfgISimple, wfgICastle, wfgIDouble, wfgIEp, wfgIProm, Bool.and_eq_true,
        decide_eq_true_eq, Bool.not_eq_true'] at hc hsl
      case simple.pawn =>
        unfold wfgIPawn at hc
        split at hc
        · cases hc
        · rename_i hr
          simp only [Bool.or_eq_true, decide_eq_true_eq, not_or, Nat.not_lt] at hr
          exact .pawn hr.1.1.2 hr.1.1.1.2 hr.2 hr.1.2 (of_decide_eq_true hc) ((pawnTo_iff b s d hdst).mp ⟨hr.1.1.1.1, hsl⟩)
      case simple.king => exact .piece hc rfl hdst
      case simple.knight => exact .piece hc rfl hdst
      case simple.bishop => exact .piece hc hsl hdst
      case simple.rook => exact .piece hc hsl hdst
      case simple.queen => exact .piece hc hsl hdst
      case castleK.king => exact .castleK hc.1 hc.2 hsl.1.1.1 hsl.1.1.2 hsl.1.2 hsl.2 hdst
      case castleQ.king => exact .castleQ hc.1 hc.2 hsl.1.1.1 hsl.1.1.2 hsl.1.2 hsl.2 hdst
      case double.pawn => exact .double hc.1.1 hc.1.2 hc.2 hsl.1 hsl.2
      case ep.pawn =>
        cases hep : b.r.ep with
        | none => simp [hep] at hsl
        | some q =>
          simp only [hep, Bool.and_eq_true, Bool.or_eq_true, decide_eq_true_eq] at hsl
          exact .ep q hc.1.1 hc.1.2 hc.2 hep hsl.1 hsl.2 hdst
      all_goals exact .promo rfl hc.1.1 hc.1.2 ((pawnTo_iff b s d hdst).mp ⟨hc.2, hsl⟩)
  · rintro ⟨p, hcell, hsrc, hdst, hsd, h⟩
    simp only at hcell hsrc hdst hsd h
    subst hcell
    rw [isWellFormed_mk]
    unfold isSemilegal
    cases h with
    | piece hg hc =>
      cases p <;> simp only [pieceGeom, pieceClear, Bool.false_eq_true] at hg hc <;>
        simp [piece_mk, hsrc, hdst, hsd, Kind.matchesPiece, wfCore, wfgISimple, pieceGeom, hg, hc]
    | pawn s0 s7 d0 d7 hst hto =>
      obtain ⟨h1, h2⟩ := (pawnTo_iff b s d hdst).mpr hto
      have : ¬ absDiff s.file.val d.file.val > 1 := by omega
      simp [piece_mk, hsrc, hdst, hsd, Kind.matchesPiece, wfCore, wfgISimple, wfgIPawn, this, s0, s7, d0, d7, h2, hst]
    | promo hk hs hd hto =>
      obtain ⟨h1, h2⟩ := (pawnTo_iff b s d hdst).mpr hto
      revert hk
      cases k <;> simp [Kind.promote, piece_mk, hsrc, hdst, hsd, Kind.matchesPiece, wfCore, wfgIProm, hs, hd, h1, h2]
    | double hf hs hd he1 he2 =>
      simp [piece_mk, hsrc, hsd, Kind.matchesPiece, wfCore, wfgIDouble, hf, hs, hd, he1, he2, empty_color]
    | ep q hs hd hf hep hq hdq =>
      simp [piece_mk, hsrc, hdst, hsd, Kind.matchesPiece, wfCore, wfgIEp, hs, hd, hf, hep, hq, ← hdq]
    | castleK hs hd hr hp ha1 ha2 =>
      simp [piece_mk, hsrc, hdst, hsd, Kind.matchesPiece, wfCore, wfgICastle, ← hs, ← hd, hr, hp, ha1, ha2]
    | castleQ hs hd hr hp ha1 ha2 =>
      simp [piece_mk, hsrc, hdst, hsd, Kind.matchesPiece, wfCore, wfgICastle, ← hs, ← hd, hr, hp, ha1, ha2]

/-- `sl_iff` as an elimination rule: to prove something of a well-formed semilegal move, prove it of a move given by its
parts with `Semi` (whose indices are then variables, so `cases` applies) -/
theorem sl_cases (b : Board) {motive : Move → Prop}
    (H : ∀ k p s d, b.get s = Cell.mk b.r.side p → (b.get d).color ≠ some b.r.side → s ≠ d → Semi b k p s d →
      motive ⟨k, Cell.mk b.r.side p, s, d⟩)
    (mv : Move) (hwf : mv.isWellFormed = true) (hsl : isSemilegal b mv = true) : motive mv := by
  obtain ⟨p, hcell, hsrc, hdst, hne, h⟩ := (sl_iff b mv).mp ⟨hwf, hsl⟩
  obtain ⟨k, x, s, d⟩ := mv
  subst hcell
  exact H k p s d hsrc hdst hne h

/-- the man a well-formed semilegal move names, and the squares its kind fixes -/
theorem sl_facts (b : Board) (mv : Move) (hwf : mv.isWellFormed = true) (hsl : isSemilegal b mv = true) :
    ∃ piece, mv.cell = Cell.mk b.r.side piece ∧ mv.kind.matchesPiece piece = true ∧ mv.src ≠ mv.dst
      ∧ (mv.kind = .castleK →
          mv.src = Sq.mk fileE (castlingRank b.r.side) ∧ mv.dst = Sq.mk fileG (castlingRank b.r.side))
      ∧ (mv.kind = .castleQ →
          mv.src = Sq.mk fileE (castlingRank b.r.side) ∧ mv.dst = Sq.mk fileC (castlingRank b.r.side))
      ∧ (mv.kind = .ep → mv.src.rank = epSrcRank b.r.side) := by
  apply sl_cases b ?_ mv hwf hsl
  intro k p s d _ _ hne h
  refine ⟨p, rfl, h.matches, hne, ?_⟩
  cases h with
  | promo hk => revert hk; cases k <;> simp [Kind.promote]
  | castleK hs hd => exact ⟨fun _ => ⟨hs, hd⟩, nofun, nofun⟩
  | castleQ hs hd => exact ⟨nofun, fun _ => ⟨hs, hd⟩, nofun⟩
  | ep _ hs => exact ⟨nofun, nofun, fun _ => hs⟩
  | _ => exact ⟨nofun, nofun, nofun⟩

theorem mkMove_eta (mv : Move) (c : Color) (p : Piece) (h : mv.cell = Cell.mk c p) :
    mv = mkMove c mv.kind p mv.src mv.dst := by
  cases mv; simp only [mkMove] at *; simp [h]

theorem sl_normal (b : Board) (mv : Move) (hsl : mv.isWellFormed = true ∧ isSemilegal b mv = true) :
    ∃ piece, mv.cell = Cell.mk b.r.side piece ∧ mv.kind.matchesPiece piece = true
      ∧ mv = mkMove b.r.side mv.kind piece mv.src mv.dst := by
  obtain ⟨p, hcell, hmatch, _⟩ := sl_facts b mv hsl.1 hsl.2
  exact ⟨p, hcell, hmatch, mkMove_eta mv _ _ hcell⟩

/-- the double step, for a move that is not taken apart -/
theorem sl_double (b : Board) (mv : Move) (hwf : mv.isWellFormed = true) (hsl : isSemilegal b mv = true)
    (hk : mv.kind = .double) :
    mv.src.file = mv.dst.file ∧ mv.src.rank = doubleSrcRank b.r.side ∧ mv.dst.rank = doubleDstRank b.r.side
      ∧ b.get (addU mv.src (forwardDelta b.r.side)) = Cell.empty ∧ b.get mv.dst = Cell.empty := by
  obtain ⟨p, _, _, _, _, h⟩ := (sl_iff b mv).mp ⟨hwf, hsl⟩
  obtain ⟨k, x, s, d⟩ := mv
  simp only at hk h ⊢
  subst hk
  cases h with
  | promo hk => cases hk
  | double hf hs hd he1 he2 => exact ⟨hf, hs, hd, he1, he2⟩

theorem new?_some (k : Kind) (c : Cell) (s d : Sq) (mv : Move) (h : Move.new? k c s d = some mv) :
    mv = ⟨k, c, s, d⟩ ∧ mv.isWellFormed = true := by
  unfold Move.new? at h
  simp only at h
  split at h
  · rename_i hw; cases h; exact ⟨rfl, hw⟩
  · cases h

theorem new?_wf (k : Kind) (c : Cell) (s d : Sq) (h : (Move.mk k c s d).isWellFormed = true) :
    Move.new? k c s d = some ⟨k, c, s, d⟩ := by
  unfold Move.new?; simp only [h, if_true]

end Owl.Lemmas
