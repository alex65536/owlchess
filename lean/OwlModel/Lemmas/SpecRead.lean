/-
Plain readings of the rules (`Spec`), each definition said once in the form the proofs use: when two positions or two
sets of rights are equal, the content of a square and the other fields of the position after a move, who attacks a square
and what "in check" means with one king, normalisation, validity, insufficient material. A few of them keep the names
under `Owl.Props.C18` by which the statements of C18 know them. The move lists are taken apart in `Lemmas/SpecMoves.lean`.
-/
import OwlModel.Spec.Rules

namespace Owl.Lemmas
open Owl Owl.Spec

theorem rightsSet_ext (a b : RightsSet) (h : ∀ c s, a.has c s = b.has c s) : a = b := by
  cases a; cases b
  have h1 := h .white .king; have h2 := h .white .queen; have h3 := h .black .king; have h4 := h .black .queen
  simp only [RightsSet.has] at h1 h2 h3 h4
  simp [h1, h2, h3, h4]

theorem pos_ext {p q : Pos} (h1 : p.board = q.board) (h2 : p.side = q.side) (h3 : p.rights = q.rights)
    (h4 : p.ep = q.ep) (h5 : p.half = q.half) (h6 : p.full = q.full) : p = q := by
  cases p; cases q; simp_all

theorem pos_ext_get {p q : Pos} (h1 : ∀ s, p.get s = q.get s) (h2 : p.side = q.side) (h3 : p.rights = q.rights)
    (h4 : p.ep = q.ep) (h5 : p.half = q.half) (h6 : p.full = q.full) : p = q :=
  pos_ext (Tab.ext h1) h2 h3 h4 h5 h6

theorem none_has (c : Color) (sd : Side) : RightsSet.none.has c sd = false := by
  cases c <;> cases sd <;> rfl

end Owl.Lemmas

namespace Owl.Spec

/-- the square-by-square content of `apply p m` (its `cell`, with the kind looked at once) -/
def applyGet (p : Pos) (m : Move) (s : Sq) : Option Man :=
  let c := m.man.color
  let sq (f : Fin 8) : Sq := sqOf f (homeRank c)
  if s = m.dst then some (match m.kind.promote with | some pc => ⟨c, pc⟩ | none => m.man)
  else if s = m.src then none
  else match m.kind with
    | .castleK => if s = sq 7 then none else if s = sq 5 then some ⟨c, .rook⟩ else p.get s
    | .castleQ => if s = sq 0 then none else if s = sq 3 then some ⟨c, .rook⟩ else p.get s
    | .ep => if some s = p.ep then none else p.get s
    | _ => p.get s

theorem apply_get (p : Pos) (m : Move) (s : Sq) : (apply p m).get s = applyGet p m s := by
  obtain ⟨k, man, src, dst⟩ := m
  simp only [apply, Pos.get, Tab.get_ofFn, applyGet, capturedSq]
  by_cases h1 : s = dst
  · rw [if_pos h1, if_pos h1]; rfl
  · by_cases h2 : s = src
    · rw [if_neg h1, if_pos h2, if_neg h1, if_pos h2]
    · have h3 : ¬ some s = if (p.board.get dst).isSome = true then some dst else none := by
        split <;> simp [h1]
      rw [if_neg h1, if_neg h2, if_neg h1, if_neg h2]
      cases k <;> simp only [reduceCtorEq, false_and, true_and, if_false] <;> first | rfl | exact if_neg h3

end Owl.Spec

namespace Owl.Lemmas
open Owl Owl.Spec

theorem mem_attackers (p : Pos) (s t : Sq) (c : Color) :
    s ∈ attackers p t c ↔ ((p.get s).any (·.color == c) && attacks p s t) = true := by
  simp only [attackers, allSq, List.mem_filter, List.mem_finRange, true_and]

theorem attackedBy_iff (p : Pos) (t : Sq) (c : Color) :
    attackedBy p t c = true ↔ ∃ s, ((p.get s).any (·.color == c) && attacks p s t) = true := by
  unfold attackedBy
  rw [Bool.not_eq_true', List.isEmpty_eq_false_iff_exists_mem]
  exact exists_congr fun s => mem_attackers p s t c

/-- colour `c` has at most one king on the board -/
def UniqueKing (p : Pos) (c : Color) : Prop :=
  ∀ s t, p.get s = some ⟨c, .king⟩ → p.get t = some ⟨c, .king⟩ → s = t

theorem mem_kingSqs (p : Pos) (c : Color) (s : Sq) : s ∈ kingSqs p c ↔ p.get s = some ⟨c, .king⟩ := by
  simp only [kingSqs, allSq, List.mem_filter, List.mem_finRange, true_and, beq_iff_eq]

theorem uniqueKing_of_length_le {p : Pos} {c : Color} (h : (kingSqs p c).length ≤ 1) : UniqueKing p c := by
  intro s t hs ht
  rw [← mem_kingSqs] at hs ht
  generalize kingSqs p c = l at h hs ht
  match l, h with
  | [], _ => cases hs
  | [x], _ => rw [List.mem_singleton] at hs ht; rw [hs, ht]
  | _ :: _ :: _, h => simp only [List.length_cons] at h; omega

/-- with at most one king, "in check" means: some king square of that colour is attacked -/
theorem inCheck_iff {p : Pos} {c : Color} (hu : UniqueKing p c) :
    inCheck p c = true ↔ ∃ k, p.get k = some ⟨c, .king⟩ ∧ attackedBy p k c.inv = true := by
  unfold inCheck kingSq
  rw [Option.any_eq_true]
  constructor
  · rintro ⟨k, hk, ha⟩
    exact ⟨k, (mem_kingSqs p c k).1 (List.mem_of_mem_head? hk), ha⟩
  · rintro ⟨k, hk, ha⟩
    have hm := (mem_kingSqs p c k).2 hk
    cases hh : (kingSqs p c).head? with
    | none => rw [List.head?_eq_none_iff] at hh; rw [hh] at hm; cases hm
    | some k' =>
      have := (mem_kingSqs p c k').1 (List.mem_of_mem_head? hh)
      have e := hu k' k this hk
      subst e; exact ⟨_, rfl, ha⟩

/-- the `keeps` of the rules -/
def keepsOf (p : Pos) (m : Move) (cc : Color) (s : Side) : Bool :=
  p.rights.has cc s
    && !(m.man == ⟨cc, .king⟩)
    && !(m.man == ⟨cc, .rook⟩ && m.src == rookHome cc s)
    && !(m.dst == rookHome cc s && p.get m.dst == some ⟨cc, .rook⟩)

theorem side_apply (p : Pos) (m : Move) : (apply p m).side = m.man.color.inv := rfl
theorem has_apply (p : Pos) (m : Move) (cc : Color) (s : Side) :
    (apply p m).rights.has cc s = keepsOf p m cc s := by
  show (RightsSet.ofFn _).has cc s = _
  rw [RightsSet.has_ofFn]; rfl
theorem ep_apply (p : Pos) (m : Move) :
    (apply p m).ep = if m.kind = .double then some m.dst else none := rfl
theorem half_apply (p : Pos) (m : Move) :
    (apply p m).half = if m.man.piece = .pawn ∨ (capturedSq p m).isSome then 0 else min (p.half + 1) 65535 := rfl
theorem full_apply (p : Pos) (m : Move) :
    (apply p m).full = if m.man.color = .black then min (p.full + 1) 65535 else p.full := rfl

theorem keepsOf_none {p : Pos} (h : p.rights = RightsSet.none) (m : Move) (c : Color) (sd : Side) :
    keepsOf p m c sd = false := by
  unfold keepsOf; rw [h, none_has]; rfl

theorem promote_ne_king (k : Kind) : k.promote ≠ some .king := by cases k <;> decide

theorem of_ite_eq {α : Type} {P : Prop} [Decidable P] {a b x : α} (h : (if P then a else b) = x) (ha : a ≠ x) :
    b = x := by
  split at h
  · exact absurd h ha
  · exact h

theorem applyGet_king {p : Pos} {m : Move} {s : Sq} {c : Color} (h : applyGet p m s = some ⟨c, .king⟩) :
    (s = m.dst ∧ m.man = ⟨c, .king⟩) ∨ (s ≠ m.dst ∧ s ≠ m.src ∧ p.get s = some ⟨c, .king⟩) := by
  unfold applyGet at h
  by_cases hd : s = m.dst
  · left
    refine ⟨hd, ?_⟩
    rw [if_pos hd] at h
    cases hk : m.kind.promote with
    | none => rw [hk] at h; exact Option.some.inj h
    | some pc =>
      rw [hk] at h
      have : pc = .king := congrArg Man.piece (Option.some.inj h)
      exact absurd (this ▸ hk) (promote_ne_king m.kind)
  · right
    rw [if_neg hd] at h
    by_cases hs : s = m.src
    · rw [if_pos hs] at h; cases h
    · rw [if_neg hs] at h
      refine ⟨hd, hs, ?_⟩
      -- none of the other cases yields a king
      split at h
      · exact of_ite_eq (of_ite_eq h nofun) (by simp)
      · exact of_ite_eq (of_ite_eq h nofun) (by simp)
      · exact of_ite_eq h nofun
      · exact h

/-- a move of a man standing on its source square cannot create a second king -/
theorem uniqueKing_apply {p : Pos} {m : Move} {c : Color} (hu : UniqueKing p c)
    (hsrc : p.get m.src = some m.man) : UniqueKing (apply p m) c := by
  intro s t hs ht
  rw [apply_get] at hs ht
  rcases applyGet_king hs with ⟨h1, h2⟩ | ⟨h1, h2, h3⟩ <;> rcases applyGet_king ht with ⟨k1, k2⟩ | ⟨k1, k2, k3⟩
  · rw [h1, k1]
  · rw [h2] at hsrc; exact absurd (hu _ _ k3 hsrc) k2
  · rw [k2] at hsrc; exact absurd (hu _ _ h3 hsrc) h2
  · exact hu _ _ h3 k3

theorem get_normalise (p : Pos) (s : Sq) : (normalise p).get s = p.get s := rfl
theorem side_normalise (p : Pos) : (normalise p).side = p.side := rfl
theorem ep_normalise (p : Pos) : (normalise p).ep = epKept p := rfl
theorem has_normalise (p : Pos) (c : Color) (sd : Side) : (normalise p).rights.has c sd = rightKept p c sd := by
  show (RightsSet.ofFn _).has c sd = _
  rw [RightsSet.has_ofFn]
theorem half_normalise (p : Pos) : (normalise p).half = p.half := rfl
theorem full_normalise (p : Pos) : (normalise p).full = p.full := rfl
theorem kingSqs_normalise (p : Pos) (c : Color) : kingSqs (normalise p) c = kingSqs p c := rfl

theorem rightKept_none {p : Pos} (h : p.rights = RightsSet.none) (c : Color) (sd : Side) : rightKept p c sd = false := by
  unfold rightKept; rw [h, none_has]; rfl

theorem rights_normalise_none {p : Pos} (hr : p.rights = RightsSet.none) :
    (normalise p).rights = RightsSet.none :=
  rightsSet_ext _ _ fun c sd => by rw [has_normalise, rightKept_none hr, none_has]

theorem validRaw_iff (p : Pos) : ValidRaw p = true ↔
    ((∀ e, p.ep = some e → rank e = epRank p.side)
      ∧ (∀ c, (menOf p c).length ≤ 16) ∧ (∀ c, (kingSqs p c).length = 1)
      ∧ (∀ s, s ∈ pawnSqs p → rank s ≠ 0 ∧ rank s ≠ 7)
      ∧ inCheck (normalise p) p.side.inv = false) := by
  have hc : ∀ P : Color → Prop, (∀ c, P c) ↔ (P .white ∧ P .black) :=
    fun P => ⟨fun h => ⟨h _, h _⟩, fun h c => by cases c; exact h.1; exact h.2⟩
  unfold ValidRaw
  rw [hc (fun c => (menOf p c).length ≤ 16), hc (fun c => (kingSqs p c).length = 1)]
  cases p.ep with
  | none =>
    simp only [Bool.true_and, Bool.and_eq_true, decide_eq_true_eq, List.all_eq_true,
      Bool.not_eq_true', and_assoc, reduceCtorEq, false_imp_iff, implies_true, true_and,
      Bool.decide_and]
  | some e =>
    simp only [Bool.and_eq_true, decide_eq_true_eq, List.all_eq_true,
      Bool.not_eq_true', and_assoc, Option.some.injEq, forall_eq', Bool.decide_and]

theorem length_kingSqs_of_valid {p : Pos} (h : ValidRaw p = true) (c : Color) : (kingSqs p c).length = 1 :=
  ((validRaw_iff p).1 h).2.2.1 c

def othersOf (p : Pos) : List Sq := allSq.filter fun s => (p.get s).any (·.piece != .king)

theorem insufficient_eq (p : Pos) : insufficient p =
    ((othersOf p).isEmpty
    || ((othersOf p).length = 1 && (othersOf p).all fun s => (p.get s).any (·.piece == .knight))
    || ((othersOf p).all (fun s => (p.get s).any (·.piece == .bishop))
        && ((othersOf p).all squareLight || (othersOf p).all (fun s => !squareLight s)))) := rfl

theorem mem_legalMoves (P : Pos) (sm : Move) :
    sm ∈ legalMoves P ↔ sm ∈ pseudoMoves P ∧ inCheck (apply P sm) P.side = false := by
  simp only [legalMoves, List.mem_filter, Bool.not_eq_true']

end Owl.Lemmas

namespace Owl.Props.C18
open Owl Owl.Spec Owl.Lemmas

/-- a castling right of the side to move implies that its king stands on its home square
(true after `normalise`; the rules' `castleMoves` does not look at the king's square) -/
def KingHomeOK (p : Pos) : Prop :=
  ∀ sd, p.rights.has p.side sd = true → p.get (kingHome p.side) = some ⟨p.side, .king⟩

theorem kingHomeOK_normalise (p : Pos) : KingHomeOK (normalise p) := by
  intro sd h
  rw [has_normalise, side_normalise] at h
  rw [get_normalise, side_normalise]
  unfold rightKept at h
  simp only [Bool.and_eq_true, beq_iff_eq] at h
  exact h.1.2

theorem rights_apply_none {p : Pos} (hr : p.rights = RightsSet.none) (m : Move) :
    (apply p m).rights = RightsSet.none :=
  rightsSet_ext _ _ fun c sd => by rw [has_apply, keepsOf_none hr, none_has]

end Owl.Props.C18
