/-
C01/C06 "each exactly once": the generator's output has no duplicates, on any board and for either colour
(`genWith_nodup'`). The classes are emitted in a fixed order (`tag`), each component list is duplicate-free by
construction from duplicate-free bit-set enumerations.
-/
import OwlModel.Lemmas.GenExact

namespace Owl.Lemmas
open Owl Owl.Impl

theorem nodup_map_of_inj {α β : Type} (l : List α) (f : α → β) (hl : l.Nodup) (hf : ∀ a b, f a = f b → a = b) :
    (l.map f).Nodup := by
  unfold List.Nodup
  rw [List.pairwise_map]
  exact List.Pairwise.imp (fun {a b} hne e => hne (hf a b e)) hl

/-- a flatMap over a duplicate-free list is duplicate-free if every element can be traced back to its index -/
theorem nodup_flatMap_key {α β : Type} (l : List α) (f : α → List β) (key : β → α) (hl : l.Nodup)
    (h1 : ∀ a ∈ l, (f a).Nodup) (hk : ∀ a ∈ l, ∀ x ∈ f a, key x = a) : (l.flatMap f).Nodup := by
  unfold List.Nodup
  rw [List.pairwise_flatMap]
  refine ⟨h1, List.Pairwise.imp_of_mem (fun {a b} ha hb hne x hx y hy e => hne ?_) hl⟩
  rw [← hk a ha x hx, e, hk b hb y hy]

theorem mkMove_inj {c : Color} {k k' : Kind} {p p' : Piece} {s s' d d' : Sq}
    (h : mkMove c k p s d = mkMove c k' p' s' d') : k = k' ∧ p = p' ∧ s = s' ∧ d = d' := by
  unfold mkMove at h
  injection h with h1 h2 h3 h4
  exact ⟨h1, (mk_inj h2).2, h3, h4⟩

theorem srcDst_nodup (c : Color) (k : Kind) (p : Piece) (X : BB) (A : Sq → BB) :
    (X.toList.flatMap fun src => (A src).toList.map fun dst => mkMove c k p src dst).Nodup :=
  nodup_flatMap_key _ _ Move.src (toList_nodup _)
    (fun _ _ => nodup_map_of_inj _ _ (toList_nodup _) fun _ _ e => (mkMove_inj e).2.2.2)
    (fun _ _ x hx => by obtain ⟨d, _, rfl⟩ := List.mem_map.mp hx; rfl)

theorem addPawn_nodup (c : Color) (isPromote : Bool) (s d : Sq) : (addPawnWithPromote c isPromote s d).Nodup := by
  unfold addPawnWithPromote
  cases isPromote
  · simp
  · have hne : ∀ k k' : Kind, k ≠ k' → mkMove c k .pawn s d ≠ mkMove c k' .pawn s d :=
      fun k k' h e => h (mkMove_inj e).1
    simp [hne]

theorem addPawn_facts (c : Color) (isPromote : Bool) (s d : Sq) (mv : Move) (h : mv ∈ addPawnWithPromote c isPromote s d) :
    mv.src = s ∧ mv.dst = d := by
  obtain ⟨k, _, rfl⟩ := (mem_addPawn c isPromote s d mv).mp h
  exact ⟨rfl, rfl⟩

/-- the destinations a pawn component loops over, each with the moves `add_pawn_with_promote` makes of it -/
theorem addPawn_flatMap_nodup (c : Color) (isPromote : Bool) (X : BB) (src : Sq → Sq) :
    (X.toList.flatMap fun dst => addPawnWithPromote c isPromote (src dst) dst).Nodup :=
  nodup_flatMap_key _ _ Move.dst (toList_nodup _) (fun _ _ => addPawn_nodup _ _ _ _)
    (fun _ _ _ hx => (addPawn_facts _ _ _ _ _ hx).2)

theorem genPawnSingle_nodup (b : Board) (c : Color) (isPromote : Bool) (pawns : BB) :
    (genPawnSingle b c isPromote pawns).Nodup :=
  addPawn_flatMap_nodup c isPromote _ _

theorem genPawnDouble_nodup (b : Board) (c : Color) (pawns : BB) : (genPawnDouble b c pawns).Nodup := by
  unfold genPawnDouble
  exact nodup_map_of_inj _ _ (toList_nodup _) (fun a b e => (mkMove_inj e).2.2.2)

theorem lr_ne (c : Color) : ∀ d : Sq, addU d (-(leftDelta c)) ≠ addU d (-(rightDelta c)) := by
  cases c <;> decide

theorem genPawnCaptureOf_nodup (b : Board) (c : Color) (isPromote : Bool) (pawns : BB) :
    (genPawnCaptureOf b c isPromote pawns).Nodup := by
  unfold genPawnCaptureOf
  rw [List.nodup_append]
  refine ⟨addPawn_flatMap_nodup c isPromote _ _, addPawn_flatMap_nodup c isPromote _ _, ?_⟩
  intro x hx y hy e
  subst e
  simp only [List.mem_flatMap] at hx hy
  obtain ⟨d, _, hd⟩ := hx
  obtain ⟨d', _, hd'⟩ := hy
  obtain ⟨s1, d1⟩ := addPawn_facts _ _ _ _ _ hd
  obtain ⟨s2, d2⟩ := addPawn_facts _ _ _ _ _ hd'
  have : d = d' := d1.symm.trans d2
  subst this
  exact lr_ne c d (s1.symm.trans s2)

theorem nodup_ite_prop {α : Type} (P : Prop) [Decidable P] (l : List α) (h : l.Nodup) : (if P then l else []).Nodup := by
  by_cases hp : P <;> simp [hp, h]

theorem ep_lr_ne : ∀ p : Sq, addU p (-1) ≠ addU p 1 := by decide

theorem genPawnEnpassant_nodup (b : Board) (c : Color) : (genPawnEnpassant b c).Nodup := by
  unfold genPawnEnpassant
  cases b.r.ep with
  | none => simp
  | some p =>
    simp only
    rw [List.nodup_append]
    refine ⟨nodup_ite_prop _ _ (List.pairwise_singleton _ _), nodup_ite_prop _ _ (List.pairwise_singleton _ _), ?_⟩
    intro x hx y hy e
    simp only [List.mem_ite_nil_right, List.mem_singleton] at hx hy
    exact ep_lr_ne p (mkMove_inj (hx.2.symm.trans (e.trans hy.2))).2.2.1

theorem genCastling_nodup (b : Board) (c : Color) : (genCastling b c).Nodup := by
  unfold genCastling
  split
  · simp
  · rw [List.nodup_append]
    refine ⟨nodup_ite_prop _ _ (nodup_ite_prop _ _ (List.pairwise_singleton _ _)),
      nodup_ite_prop _ _ (nodup_ite_prop _ _ (List.pairwise_singleton _ _)), ?_⟩
    intro x hx y hy e
    simp only [List.mem_ite_nil_right, List.mem_singleton] at hx hy
    cases (mkMove_inj (hx.2.2.symm.trans (e.trans hy.2.2))).1

/-- position of a move's class in the generator's output: 0–11 in the order in which `genWith` appends its components;
12 and 13 fill the cases no generated move falls under -/
def tag (mv : Move) : Nat :=
  match mv.kind with
  | .simple =>
    (match mv.cell.piece with
     | some .pawn => if mv.src.file = mv.dst.file then 0 else 3
     | some .knight => 6 | some .king => 7 | some .bishop => 8 | some .rook => 9 | some .queen => 10
     | none => 13)
  | .double => 1
  | .promN | .promB | .promR | .promQ => if mv.src.file = mv.dst.file then 2 else 4
  | .ep => 5
  | .castleK | .castleQ => 11
  | .null => 12

theorem nodup_ite (c : Bool) (l : List Move) (h : l.Nodup) : (if c = true then l else []).Nodup :=
  nodup_ite_prop _ l h

theorem tag_ite (c : Bool) (l : List Move) (P : Move → Prop) (h : ∀ a ∈ l, P a) : ∀ a ∈ (if c = true then l else []), P a := by
  cases c <;> simp <;> exact h

theorem tag_promo (mv : Move) (h : mv.kind.promote.isSome = true) : tag mv = if mv.src.file = mv.dst.file then 2 else 4 := by
  rcases (isPromo_iff _).mp h with e | e | e | e <;> simp [tag, e]

def ND (l : List Move) (lo hi : Nat) : Prop := l.Nodup ∧ ∀ a ∈ l, lo ≤ tag a ∧ tag a < hi

theorem ND.append {l1 l2 : List Move} {lo m hi : Nat} (h1 : ND l1 lo m) (h2 : ND l2 m hi) (hle : lo ≤ m) (hle2 : m ≤ hi) :
    ND (l1 ++ l2) lo hi := by
  refine ⟨List.nodup_append.mpr ⟨h1.1, h2.1, fun a ha b hb e => ?_⟩, ?_⟩
  · have := (h1.2 a ha).2; have := (h2.2 b hb).1; rw [← e] at this; omega
  intro a ha
  rcases List.mem_append.mp ha with h | h
  · have := h1.2 a h; omega
  · have := h2.2 a h; omega

theorem ND.ite {l : List Move} {lo hi : Nat} (c : Bool) (h : ND l lo hi) : ND (if c = true then l else []) lo hi := by
  cases c
  · exact ⟨by simp, by simp⟩
  · simpa using h

theorem ND.of_tag {l : List Move} (n : Nat) (h1 : l.Nodup) (h2 : ∀ a ∈ l, tag a = n) : ND l n (n + 1) :=
  ⟨h1, fun a ha => by rw [h2 a ha]; omega⟩

/-- a piece component: no duplicates, and of the one class `n` -/
theorem srcDst_ND (c : Color) (p : Piece) (X : BB) (A : Sq → BB) (n : Nat) (hn : ∀ s d, tag (mkMove c .simple p s d) = n) :
    ND (X.toList.flatMap fun src => (A src).toList.map fun dst => mkMove c .simple p src dst) n (n + 1) :=
  ND.of_tag n (srcDst_nodup c .simple p X A) fun a ha => by
    obtain ⟨s, d, _, _, rfl⟩ := (mem_srcDst c .simple p X A a).mp ha
    exact hn s d

/-- each exactly once: the generator's output has no duplicates. The tags are read off the bit sets the components loop
over, so nothing is asked of the board -/
theorem genWith_nodup' (b : Board) (c : Color) (fs fc fp fz : Bool) : (genWith b c fs fc fp fz).Nodup := by
  have single : ∀ pr pawns, ∀ a ∈ genPawnSingle b c pr pawns, a.src.file = a.dst.file ∧ a.cell = Cell.mk c .pawn
      ∧ promoKind pr a.kind := by
    intro pr pawns a ha
    obtain ⟨s, d, k, hg, _, _, hk, rfl⟩ := (mem_genPawnSingle b c pr pawns a).mp ha
    exact ⟨((pg_push c s d).mpr hg).1, rfl, hk⟩
  have capture : ∀ pr pawns, ∀ a ∈ genPawnCaptureOf b c pr pawns, a.src.file ≠ a.dst.file ∧ a.cell = Cell.mk c .pawn
      ∧ promoKind pr a.kind := by
    intro pr pawns a ha
    obtain ⟨s, d, k, hg, _, _, hk, rfl⟩ := (mem_genPawnCaptureOf b c pr pawns a).mp ha
    exact ⟨file_ne_of_diff ((pg_cap c s d).mpr hg).1, rfl, hk⟩
  have t0 : ∀ pawns, ∀ a ∈ genPawnSingle b c false pawns, tag a = 0 := by
    intro _ a ha; obtain ⟨hf, hc, (hk : a.kind = .simple)⟩ := single _ _ a ha; simp [tag, hk, hc, piece_mk, hf]
  have t1 : ∀ pawns, ∀ a ∈ genPawnDouble b c pawns, tag a = 1 := by
    intro _ a ha; obtain ⟨s, d, _, _, _, _, rfl⟩ := (mem_genPawnDouble b c _ a).mp ha; rfl
  have t2 : ∀ pawns, ∀ a ∈ genPawnSingle b c true pawns, tag a = 2 := by
    intro _ a ha; obtain ⟨hf, hc, hk⟩ := single _ _ a ha; rw [tag_promo a hk]; simp [hf]
  have t3 : ∀ pawns, ∀ a ∈ genPawnCaptureOf b c false pawns, tag a = 3 := by
    intro _ a ha; obtain ⟨hf, hc, (hk : a.kind = .simple)⟩ := capture _ _ a ha; simp [tag, hk, hc, piece_mk, hf]
  have t4 : ∀ pawns, ∀ a ∈ genPawnCaptureOf b c true pawns, tag a = 4 := by
    intro _ a ha; obtain ⟨hf, hc, hk⟩ := capture _ _ a ha; rw [tag_promo a hk]; simp [hf]
  have t5 : ∀ a ∈ genPawnEnpassant b c, tag a = 5 := by
    intro a ha; unfold genPawnEnpassant at ha
    cases hep : b.r.ep with
    | none => simp [hep] at ha
    | some p =>
      simp only [hep, List.mem_append, List.mem_ite_nil_right, List.mem_singleton] at ha
      rcases ha with ⟨_, rfl⟩ | ⟨_, rfl⟩ <;> rfl
  have t11 : ∀ a ∈ genCastling b c, tag a = 11 := by
    intro a ha
    rcases (mem_genCastling b c a).mp ha with ⟨_, _, _, _, rfl⟩ | ⟨_, _, _, _, rfl⟩ <;> rfl
  have n0 := fun pw => ND.of_tag 0 (genPawnSingle_nodup b c false pw) (t0 pw)
  have n1 := fun pw => ND.of_tag 1 (genPawnDouble_nodup b c pw) (t1 pw)
  have n2 := fun pw => ND.of_tag 2 (genPawnSingle_nodup b c true pw) (t2 pw)
  have n3 := fun pw => ND.of_tag 3 (genPawnCaptureOf_nodup b c false pw) (t3 pw)
  have n4 := fun pw => ND.of_tag 4 (genPawnCaptureOf_nodup b c true pw) (t4 pw)
  have n5 := ND.of_tag 5 (genPawnEnpassant_nodup b c) t5
  have n6 : ND (genKN b c fs fc .knight) 6 7 := srcDst_ND c _ _ _ 6 fun _ _ => by simp [tag, mkMove, piece_mk]
  have n7 : ND (genKN b c fs fc .king) 7 8 := srcDst_ND c _ _ _ 7 fun _ _ => by simp [tag, mkMove, piece_mk]
  have n8 : ND (genBRQOf b c fs fc true false .bishop) 8 9 := srcDst_ND c _ _ _ 8 fun _ _ => by simp [tag, mkMove, piece_mk]
  have n9 : ND (genBRQOf b c fs fc false true .rook) 9 10 := srcDst_ND c _ _ _ 9 fun _ _ => by simp [tag, mkMove, piece_mk]
  have n10 : ND (genBRQOf b c fs fc true true .queen) 10 11 := srcDst_ND c _ _ _ 10 fun _ _ => by simp [tag, mkMove, piece_mk]
  have n11 := ND.of_tag 11 (genCastling_nodup b c) t11
  have hsimple : ND (genPawnSimple b c fs fp) 0 3 := by
    unfold genPawnSimple
    exact ND.append (ND.ite fs (ND.append (n0 _) (n1 _) (by omega) (by omega))) (ND.ite fp (n2 _)) (by omega) (by omega)
  have hcap : ND (genPawnCapture b c ++ genPawnEnpassant b c) 3 6 := by
    unfold genPawnCapture
    exact ND.append (ND.append (n3 _) (n4 _) (by omega) (by omega)) n5 (by omega) (by omega)
  have hbrq : ND (genBRQ b c fs fc) 8 11 := by
    unfold genBRQ
    exact ND.append (ND.append n8 n9 (by omega) (by omega)) n10 (by omega) (by omega)
  have hall : ND (genWith b c fs fc fp fz) 0 12 := by
    unfold genWith
    exact ND.append (ND.append (ND.append (ND.append (ND.append (ND.ite (fs || fp) hsimple) (ND.ite fc hcap)
      (by omega) (by omega)) n6 (by omega) (by omega)) n7 (by omega) (by omega)) hbrq (by omega) (by omega))
      (ND.ite fz n11) (by omega) (by omega)
  exact hall.1

theorem genWith_nodup (b : Board) (hv : Valid b) (fs fc fp fz : Bool) : (genWith b b.r.side fs fc fp fz).Nodup :=
  genWith_nodup' b b.r.side fs fc fp fz

end Owl.Lemmas
