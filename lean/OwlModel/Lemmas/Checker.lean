/-
Exactness of the legality test without prefilter (`Move::is_legal_unchecked`, `Checker::is_legal` behind
`NilPrechecker`): for a well-formed semilegal move it answers "the mover's king is not attacked in the position
after the move".  Covers the three code paths (king moves incl. castling, en passant, everything else).
-/
import OwlModel.Lemmas.Attacks
import OwlModel.Lemmas.MakeShape

namespace Owl.Lemmas
open Owl Owl.Impl

/-- the five-term attackers set over arbitrary piece sets and occupancy -/
def attackSet (P : Piece → BB) (pos : Sq) (inv : Color) (occ : BB) : BB :=
  (P .pawn &&& pawnAttack inv.inv pos) ||| (P .king &&& kingAttack pos) ||| (P .knight &&& knightAttack pos)
    ||| (bishopAttack pos occ &&& (P .bishop ||| P .queen)) ||| (rookAttack pos occ &&& (P .rook ||| P .queen))

theorem isCellAttacked_set (b : Board) (t : Sq) (c : Color) :
    isCellAttacked b t c = (attackSet (b.piece2 c) t c b.all).nonEmpty := by
  rw [isCellAttacked_eq]; rfl

theorem isCellAttacked_has (b : Board) (t : Sq) (c : Color) :
    isCellAttacked b t c = true ↔ ∃ s, (attackSet (b.piece2 c) t c b.all).has s = true := by
  rw [isCellAttacked_set, nonEmpty_iff]

theorem no_attacker (b : Board) (t : Sq) (c : Color) (h : isCellAttacked b t c = false) (s : Sq) :
    (attackSet (b.piece2 c) t c b.all).has s = false :=
  Bool.eq_false_iff.mpr fun hs => Bool.false_ne_true (h.symm.trans ((isCellAttacked_has b t c).mpr ⟨s, hs⟩))

theorem and_mask_nonEmpty (a m x : BB) : (a &&& x &&& m).nonEmpty = ((a &&& m) &&& x).nonEmpty := by
  congr 1
  apply BB.ext_has; intro s; simp only [BB.has_and]
  cases a.has s <;> cases x.has s <;> cases m.has s <;> rfl

theorem isAttacked_set (ck : Checker) (pos : Sq) (occ mask : BB) :
    ck.isAttacked pos occ mask = (attackSet (fun p => ck.b.piece2 ck.inv p &&& mask) pos ck.inv occ).nonEmpty := by
  unfold Checker.isAttacked attackSet Board.pieceDiag Board.pieceLine
  simp only [nonEmpty_or, and_mask_nonEmpty]
  have e1 : ∀ (A x y : BB), (A &&& mask &&& (x ||| y)).nonEmpty = (A &&& (x &&& mask ||| y &&& mask)).nonEmpty := by
    intro A x y; congr 1
    apply BB.ext_has; intro s; simp only [BB.has_and, BB.has_or]
    cases A.has s <;> cases x.has s <;> cases y.has s <;> cases mask.has s <;> rfl
  rw [e1, e1]
  cases (ck.b.piece2 ck.inv Piece.pawn &&& mask &&& pawnAttack ck.inv.inv pos).nonEmpty <;>
  cases (ck.b.piece2 ck.inv Piece.king &&& mask &&& kingAttack pos).nonEmpty <;>
  cases (ck.b.piece2 ck.inv Piece.knight &&& mask &&& knightAttack pos).nonEmpty <;> simp

/-- when a man of colour `c` is relocated, the other colour loses what stood on the destination and nothing else -/
theorem relocate_enemy {g : Sq → Cell} {c : Color} {s d : Sq} {x : Cell} (hs : (g s).color = some c)
    (hx : x.color = some c) (p : Piece) (t : Sq) :
    relocate g s d x t = Cell.mk c.inv p ↔ (t ≠ d ∧ g t = Cell.mk c.inv p) := by
  have hc : ∀ y : Cell, y.color = some c → y ≠ Cell.mk c.inv p := by
    intro y hy e; rw [e, color_mk] at hy; exact Color.inv_ne _ (Option.some.inj hy)
  rcases relocate_cases g s d x t with ⟨e1, e⟩ | ⟨e1, e2, e⟩ | ⟨e1, -, e⟩ <;> rw [e]
  · simp [e1, hc x hx]
  · subst e2; simp [e1, hc _ hs, (mk_ne_empty c.inv p).symm]
  · simp [e1]

theorem relocate_occ {g : Sq → Cell} {s d : Sq} {x : Cell} (hx : x ≠ Cell.empty) (t : Sq) :
    relocate g s d x t ≠ Cell.empty ↔ (t = d ∨ (t ≠ s ∧ g t ≠ Cell.empty)) := by
  rcases relocate_cases g s d x t with ⟨e1, e⟩ | ⟨e1, e2, e⟩ | ⟨e1, e2, e⟩ <;> rw [e]
  · simp [e1, hx]
  · subst e2; simp [e1]
  · simp [e1, e2]

/-- the opponent's piece sets after a non-castling move: the captured man is gone, nothing else changes -/
theorem post_sets (b : Board) (mv : Move) (hb : Consistent b) (hb' : Consistent (makeMove b mv).1)
    (hn : NonCastle mv) (F : MoveFacts b mv) (p : Piece) :
    (makeMove b mv).1.piece2 b.r.side.inv p
      = b.piece2 b.r.side.inv p
        &&& ~~~ (BB.single mv.dst ||| BB.bit (mv.kind = .ep) (addU mv.dst (-(forwardDelta b.r.side)))) := by
  apply BB.ext_has
  intro t
  rw [piece2_has _ hb', BB.has_and, piece2_has _ hb, BB.has_not, BB.has_or, BB.has_single, BB.has_bit,
    ← Bool.decide_and, post_get b mv hn, Bool.eq_iff_iff]
  simp only [decide_eq_true_eq, Bool.and_eq_true, Bool.not_eq_true', Bool.or_eq_false_iff, decide_eq_false_iff_not]
  split
  · rename_i h
    simp [h, (mk_ne_empty b.r.side.inv p).symm]
  · rename_i h
    rw [relocate_enemy F.srcc (newCell_color mv b.r.side F.col)]
    exact ⟨fun ⟨a, e⟩ => ⟨e, fun e' => a e'.symm, h⟩, fun ⟨e, a, _⟩ => ⟨fun e' => a e'.symm, e⟩⟩

theorem post_all (b : Board) (mv : Move) (hb : Consistent b) (hb' : Consistent (makeMove b mv).1)
    (hn : NonCastle mv) (F : MoveFacts b mv) :
    (makeMove b mv).1.all = ((b.all ^^^ BB.single mv.src) ||| BB.single mv.dst)
      ^^^ BB.bit (mv.kind = .ep) (addU mv.dst (-(forwardDelta b.r.side))) := by
  apply BB.ext_has
  intro t
  rw [all_has _ hb', BB.has_xor, BB.has_or, BB.has_xor, all_has _ hb, BB.has_single, BB.has_single, BB.has_bit,
    ← Bool.decide_and, post_get b mv hn, Bool.eq_iff_iff, decide_eq_true_eq]
  dsimp only
  have hsrc0 : b.get mv.src ≠ 0 := color_ne_empty F.srcc
  have hnew0 : newCell mv b.r.side ≠ Cell.empty := color_ne_empty (newCell_color mv b.r.side F.col)
  by_cases h3 : mv.kind = .ep ∧ addU mv.dst (-(forwardDelta b.r.side)) = t
  · have hv0 : b.get t ≠ 0 := by rw [← h3.2, F.vp h3.1]; exact mk_ne_zero _ _
    have h1 : ¬ mv.src = t := fun e => F.vs h3.1 (e.trans h3.2.symm)
    have h2 : ¬ mv.dst = t := fun e => F.vd h3.1 (e.trans h3.2.symm)
    rw [if_pos h3, decide_eq_true h3, decide_eq_true hv0, decide_eq_false h1, decide_eq_false h2]
    decide
  · rw [if_neg h3, decide_eq_false h3, Bool.xor_false]
    show relocate b.get mv.src mv.dst (newCell mv b.r.side) t ≠ Cell.empty ↔ _
    rw [relocate_occ hnew0]
    have hd : t = mv.dst ↔ mv.dst = t := eq_comm
    by_cases h1 : mv.src = t
    · subst h1; simp [hsrc0, hd]
    · have h1' : ¬ t = mv.src := fun e => h1 e.symm
      simp [h1, h1', hd, or_comm, show Cell.empty = (0 : Cell) from rfl]

theorem adv_single (c : Color) : ∀ dst : Sq, dst.rank = epDstRank c →
    advanceForward c.inv (BB.single dst) = BB.single (addU dst (-(forwardDelta c))) := by
  cases c <;> decide +kernel

theorem mask_xor (d v : BB) (h : d &&& v = 0#64) : ~~~ d ^^^ v = ~~~ (d ||| v) := by
  apply BB.ext_has; intro s
  have := congrArg (fun x => BB.has x s) h
  simp only [BB.has_and, BB.has_zero] at this
  simp only [BB.has_xor, BB.has_not, BB.has_or]
  revert this; cases d.has s <;> cases v.has s <;> simp

theorem self_not_attacked (t : Sq) : (kingAttack t).has t = false ∧ (knightAttack t).has t = false
    ∧ (pawnAttack .white t).has t = false ∧ (pawnAttack .black t).has t = false := by
  obtain ⟨hk, hn, hw, hb⟩ := near_check_sq t
  rw [hk, hn, hw, hb]
  exact ⟨stepsOf_self (by decide) t, stepsOf_self (by decide) t, stepsOf_self (by decide) t,
    stepsOf_self (by decide) t⟩

theorem attackSet_has (P : Piece → BB) (pos : Sq) (inv : Color) (occ : BB) (s : Sq) :
    (attackSet P pos inv occ).has s =
      (((P .pawn).has s && (pawnAttack inv.inv pos).has s) || ((P .king).has s && (kingAttack pos).has s)
        || ((P .knight).has s && (knightAttack pos).has s)
        || ((bishopAttack pos occ).has s && ((P .bishop).has s || (P .queen).has s))
        || ((rookAttack pos occ).has s && ((P .rook).has s || (P .queen).has s))) := by
  unfold attackSet
  simp only [BB.has_or, BB.has_and]

/-- a line piece whose line reaches the square attacks it -/
theorem attackSet_of_far (P : Piece → BB) (pos : Sq) (inv : Color) (occ : BB) (s : Sq)
    (h : ((bishopAttack pos occ).has s = true ∧ ((P .bishop).has s = true ∨ (P .queen).has s = true))
      ∨ ((rookAttack pos occ).has s = true ∧ ((P .rook).has s = true ∨ (P .queen).has s = true))) :
    (attackSet P pos inv occ).has s = true := by
  rw [attackSet_has]
  rcases h with ⟨ha, g | g⟩ | ⟨ha, g | g⟩ <;> simp [ha, g]

/-- An attacker that appears when men only leave the piece sets (`P'` within `P`) and the occupancy changes is a line
piece of `P` whose line attack has appeared: the steps of pawn, king and knight do not look at the occupancy. -/
theorem attackSet_new (P P' : Piece → BB) (pos : Sq) (inv : Color) (occ occ' : BB) (s : Sq)
    (hsub : ∀ p, (P' p).has s = true → (P p).has s = true)
    (hnew : (attackSet P' pos inv occ').has s = true) (hold : (attackSet P pos inv occ).has s = false) :
    ((bishopAttack pos occ').has s = true ∧ (bishopAttack pos occ).has s = false
        ∧ ((P .bishop).has s = true ∨ (P .queen).has s = true))
    ∨ ((rookAttack pos occ').has s = true ∧ (rookAttack pos occ).has s = false
        ∧ ((P .rook).has s = true ∨ (P .queen).has s = true)) := by
  rw [attackSet_has] at hnew hold
  simp only [Bool.or_eq_false_iff, Bool.and_eq_false_iff] at hold
  obtain ⟨⟨⟨⟨p1, p2⟩, p3⟩, p4⟩, p5⟩ := hold
  simp only [Bool.or_eq_true, Bool.and_eq_true] at hnew
  have near : ∀ (p : Piece) (a : Bool), (P' p).has s = true ∧ a = true → ((P p).has s = false ∨ a = false) → False := by
    intro p a h q
    rcases q with q | q
    · rw [hsub p h.1] at q; cases q
    · rw [h.2] at q; cases q
  have far : ∀ (a : Bool) (x y : Piece), ((P' x).has s = true ∨ (P' y).has s = true) →
      (a = false ∨ ((P x).has s = false ∧ (P y).has s = false)) →
      a = false ∧ ((P x).has s = true ∨ (P y).has s = true) := by
    intro a x y h q
    have hxy : (P x).has s = true ∨ (P y).has s = true := h.imp (hsub x) (hsub y)
    refine ⟨q.resolve_right (fun e => ?_), hxy⟩
    rcases hxy with g | g
    · rw [e.1] at g; cases g
    · rw [e.2] at g; cases g
  rcases hnew with (((h | h) | h) | h) | h
  · exact absurd p1 (near _ _ h)
  · exact absurd p2 (near _ _ h)
  · exact absurd p3 (near _ _ h)
  · exact .inl ⟨h.1, far _ _ _ h.2 p4⟩
  · exact .inr ⟨h.1, far _ _ _ h.2 p5⟩

/-- a man standing on the target square neither attacks it nor shields it -/
theorem attackSet_drop_self (P : Piece → BB) (pos : Sq) (inv : Color) (occ : BB) :
    attackSet (fun p => P p &&& ~~~ BB.single pos) pos inv (occ ||| BB.single pos) = attackSet P pos inv occ := by
  have hd : bishopAttack pos (occ ||| BB.single pos) = bishopAttack pos occ := Line.bishop.attack_self pos occ
  have hr : rookAttack pos (occ ||| BB.single pos) = rookAttack pos occ := Line.rook.attack_self pos occ
  apply BB.ext_has; intro s
  rw [attackSet_has, attackSet_has, hd, hr]
  obtain ⟨h1, h2, h3, h4⟩ := self_not_attacked pos
  by_cases e : pos = s
  · subst e
    have hp : (pawnAttack inv.inv pos).has pos = false := by cases inv <;> assumption
    have h5 : (bishopAttack pos occ).has pos = false := Line.bishop.not_attack_self pos occ
    have h6 : (rookAttack pos occ).has pos = false := Line.rook.not_attack_self pos occ
    simp [h1, h2, hp, h5, h6]
  · simp [BB.has_and, BB.has_not, BB.has_single, e]

/-- The legality test for a move that is not castling: "the mover's king is not attacked afterwards". The code looks
from the king's square afterwards at the opponent's sets without the captured man and at the occupancy after the move;
when the king itself moves it leaves the destination out of both, which changes nothing (`attackSet_drop_self`). -/
theorem isLegal_noncastle (b : Board) (mv : Move) (hs : Shape b) (hwf : mv.isWellFormed = true)
    (hsl : isSemilegal b mv = true) (hn : NonCastle mv) (k : Sq) (hkep : mv.src = k → mv.kind ≠ .ep) :
    Checker.isLegal ⟨b, .nil, b.r.side.inv, k⟩ mv
      = !isCellAttacked (makeMove b mv).1 (if mv.src = k then mv.dst else k) b.r.side.inv := by
  have F := moveFacts b mv hs hwf hsl
  have hb' := (make_shape b mv hs hwf hsl).cons
  unfold Checker.isLegal
  simp only [Pre.isLegalPre, isAttacked_set]
  rw [isCellAttacked_set, post_all b mv hs.cons hb' hn F, funext (post_sets b mv hs.cons hb' hn F)]
  by_cases hsk : mv.src = k
  · have hv : BB.bit (mv.kind = .ep) (addU mv.dst (-(forwardDelta b.r.side))) = 0#64 := if_neg (hkep hsk)
    rw [if_pos hsk, if_pos hsk, hv]
    simp only [BitVec.or_zero, BitVec.xor_zero, BitVec.and_allOnes]
    rw [attackSet_drop_self]
  · rw [if_neg hsk, if_neg hsk]
    by_cases hep : mv.kind = .ep
    · -- en passant: the code takes the captured pawn, one step behind the destination, out of sets and occupancy
      have hd : mv.dst.rank = epDstRank b.r.side := by
        obtain ⟨_, -, -, -, -, hS⟩ := (sl_iff b mv).mp ⟨hwf, hsl⟩
        rw [hep] at hS
        cases hS with
        | promo hp => cases hp
        | ep _ _ hd => exact hd
      have hv : BB.bit (mv.kind = .ep) (addU mv.dst (-(forwardDelta b.r.side))) = BB.single _ := if_pos hep
      have hdis : BB.single mv.dst &&& BB.single (addU mv.dst (-(forwardDelta b.r.side))) = 0#64 := by
        apply BB.ext_has; intro s
        simp only [BB.has_and, BB.has_single, BB.has_zero]
        by_cases e1 : mv.dst = s
        · subst e1
          have : ¬ addU mv.dst (-(forwardDelta b.r.side)) = mv.dst := fun e => F.vd hep e.symm
          simp [this]
        · simp [e1]
      rw [if_pos hep, adv_single b.r.side mv.dst hd, hv, mask_xor _ _ hdis]
    · have hv : BB.bit (mv.kind = .ep) (addU mv.dst (-(forwardDelta b.r.side))) = 0#64 := if_neg hep
      rw [if_neg hep, hv]
      simp

/-- the four squares of a castling move in coordinates: one rank, the king from the e-file, the rook to the square the
king passes -/
def CastleLine (K0 K1 R0 R1 : Sq) : Prop :=
  Spec.rank K1 = Spec.rank K0 ∧ Spec.rank R0 = Spec.rank K0 ∧ Spec.rank R1 = Spec.rank K0 ∧ Spec.file K0 = 4
  ∧ ((Spec.file K1 = 6 ∧ Spec.file R1 = 5 ∧ Spec.file R0 = 7) ∨ (Spec.file K1 = 2 ∧ Spec.file R1 = 3 ∧ Spec.file R0 = 0))

theorem castleLine (c : Color) (sd : Side) :
    CastleLine (kingHomeSq c) (kingTo c sd) (rookHomeSq c sd) (rookTo c sd) := by
  unfold CastleLine; cases c <;> cases sd <;> decide

/-- Castling, both sides: the code looks at the king's destination with only the king taken off the board; the men
attacking it are those that attack it once the rook has moved as well. The rook's old and new squares matter only to a
line piece on the back rank beyond the king, and that one would have given check. -/
theorem castle_attackers (b b' : Board) (hb : Consistent b) (hb' : Consistent b') (c : Color) (K0 K1 R0 R1 : Sq)
    (CF : CastleFacts b b' c K0 K1 R0 R1) (G : CastleLine K0 K1 R0 R1)
    (hsafe : isCellAttacked b K0 c.inv = false) (s : Sq) :
    (attackSet (b.piece2 c.inv) K1 c.inv (b.all ^^^ BB.single K0)).has s
      = (attackSet (b'.piece2 c.inv) K1 c.inv b'.all).has s := by
  obtain ⟨gR0, gR1⟩ := CF.rook
  obtain ⟨n1, n2, n3, n4, n5, n6, bK0, bR0, bK1, bR1, hG⟩ := CF
  obtain ⟨r1, r2, r3, f0, hf⟩ := G
  rw [attackSet_has, attackSet_has]
  have z : ∀ p, Cell.empty ≠ Cell.mk c.inv p := fun p e => mk_ne_zero _ _ e.symm
  -- the opponent's sets are unchanged: both men go to empty squares
  have hP : ∀ p t, (b'.piece2 c.inv p).has t = (b.piece2 c.inv p).has t := by
    intro p t
    rw [piece2_has _ hb', piece2_has _ hb, hG, Bool.eq_iff_iff, decide_eq_true_eq, decide_eq_true_eq,
      relocate_enemy (by rw [gR0, color_mk]) (color_mk _ _), relocate_enemy (by rw [bK0, color_mk]) (color_mk _ _)]
    refine ⟨fun h => h.2.2, fun h => ⟨?_, ?_, h⟩⟩
    · rintro rfl; rw [bR1] at h; exact z p h
    · rintro rfl; rw [bK1] at h; exact z p h
  simp only [hP]
  -- off the four squares the two occupancies are the board's
  have hoff : ∀ x, x ≠ K0 → x ≠ K1 → x ≠ R0 → x ≠ R1 → (b.all ^^^ BB.single K0).has x = b'.all.has x := by
    intro x h1 h2 h3 h4
    rw [BB.has_xor, BB.has_single, all_has _ hb, all_has _ hb', hG, relocate_other _ _ h4 h3, relocate_other _ _ h2 h1]
    simp [Ne.symm h1]
  -- a line from another rank crosses the back rank only at its end
  have hbishop : (bishopAttack K1 (b.all ^^^ BB.single K0)).has s = (bishopAttack K1 b'.all).has s := by
    apply Line.bishop.attack_congr
    intro hv x hx
    have := Line.bishop.strict_rank hv hx (bishop_rank_ne hv)
    apply hoff <;> rintro rfl <;> omega
  have hrook : ((b.piece2 c.inv .rook).has s || (b.piece2 c.inv .queen).has s) = true →
      (rookAttack K1 (b.all ^^^ BB.single K0)).has s = (rookAttack K1 b'.all).has s := by
    intro hq
    obtain ⟨p, hp⟩ : ∃ p, (b.piece2 c.inv p).has s = true := by
      rcases (Bool.or_eq_true _ _).mp hq with h | h <;> exact ⟨_, h⟩
    -- an enemy man stands on none of the four squares
    have hp' : b.get s = Cell.mk c.inv p := by simpa [piece2_has _ hb] using hp
    have sK0 : s ≠ K0 := by rintro rfl; rw [bK0] at hp'; exact cell_color_ne _ _ _ hp'
    have sK1 : s ≠ K1 := by rintro rfl; rw [bK1] at hp'; exact z _ hp'
    have sR0 : s ≠ R0 := by rintro rfl; rw [bR0] at hp'; exact cell_color_ne _ _ _ hp'
    have sR1 : s ≠ R1 := by rintro rfl; rw [bR1] at hp'; exact z _ hp'
    by_cases hsr : Spec.rank s = Spec.rank K1
    · obtain ⟨hv1, hx1⟩ := rook_same_rank hsr sK1
      have fK0 : Spec.file s ≠ Spec.file K0 := fun e => sK0 (Props.C18.sq_ext e (by omega))
      have fR0 : Spec.file s ≠ Spec.file R0 := fun e => sR0 (Props.C18.sq_ext e (by omega))
      have fR1 : Spec.file s ≠ Spec.file R1 := fun e => sR1 (Props.C18.sq_ext e (by omega))
      have hs8 : Spec.file s < 8 := Nat.mod_lt _ (by decide)
      by_cases hbeyond : (Spec.file s < Spec.file K0 ∧ Spec.file K0 < Spec.file K1)
          ∨ (Spec.file K1 < Spec.file K0 ∧ Spec.file K0 < Spec.file s)
      · -- beyond the king: blocked by the rook afterwards, and would have checked the king before
        have hR1 : (rookStrict s K1).has R1 = true := (hx1 R1).mpr ⟨by omega, by omega⟩
        have hreal : (rookAttack K1 b'.all).has s = false :=
          Line.rook.attack_blocked hR1 (by rw [all_has _ hb', hG, relocate_dst]; simp [mk_ne_zero])
        have hcode : (rookAttack K1 (b.all ^^^ BB.single K0)).has s = false := by
          cases h : (rookAttack K1 (b.all ^^^ BB.single K0)).has s
          · rfl
          · exfalso
            -- with the king on its square the line is blocked, so the attack went through the king
            have hold : (rookAttack K1 b.all).has s = false :=
              Line.rook.attack_blocked ((hx1 K0).mpr ⟨by omega, by omega⟩) (by rw [all_has _ hb, bK0]; simp [mk_ne_zero])
            have hatt : (rookAttack K0 b.all).has s = true := Line.rook.attack_through K1 K0 s b.all h hold
            have := no_attacker b K0 c.inv hsafe s
            rw [attackSet_of_far _ _ _ _ s (.inr ⟨hatt, (Bool.or_eq_true _ _).mp hq⟩)] at this
            cases this
        rw [hreal, hcode]
      · -- otherwise none of the four squares lies between
        apply Line.rook.attack_congr
        intro _ x hx
        have hx' := (hx1 x).mp hx
        apply hoff <;> rintro rfl <;> omega
    · apply Line.rook.attack_congr
      intro hv x hx
      have := Line.rook.strict_rank hv hx hsr
      apply hoff <;> rintro rfl <;> omega
  rw [hbishop]
  cases hq : ((b.piece2 c.inv .rook).has s || (b.piece2 c.inv .queen).has s)
  · simp only [Bool.and_false]
  · rw [hrook hq]

/-- C01/C02 core: `Move::is_legal_unchecked` (the checker with no prefilter) says exactly that the mover's king is
not attacked in the position after the move -/
theorem isLegal_nil (b : Board) (mv : Move) (hs : Shape b) (hwf : mv.isWellFormed = true)
    (hsl : isSemilegal b mv = true) (k : Sq) (hking : b.get k = Cell.mk b.r.side .king)
    (huniq : ∀ t, b.get t = Cell.mk b.r.side .king → t = k) :
    Checker.isLegal ⟨b, .nil, b.r.side.inv, k⟩ mv
      = !isCellAttacked (makeMove b mv).1 (if mv.src = k then mv.dst else k) b.r.side.inv := by
  obtain ⟨p, hcell, hsrc, -, -, hS⟩ := (sl_iff b mv).mp ⟨hwf, hsl⟩
  by_cases hc : ∃ sd, mv.kind = castleKind sd
  · -- castling: the code looks at the king's destination with only the king taken off the board
    obtain ⟨sd, hk⟩ := hc
    obtain ⟨e1, e2, hnE, -⟩ := castle_semi b mv hwf hsl sd hk
    have CF := castleFacts b mv sd hk (makeOk_of_semilegal b mv hs hwf hsl)
    obtain rfl : mv.src = k := e1.trans (huniq _ CF.bK0)
    unfold Checker.isLegal
    simp only [Pre.isLegalPre, if_true, isAttacked_set, BitVec.and_allOnes]
    rw [isCellAttacked_set]
    congr 2
    apply BB.ext_has; intro s
    rw [e1] at hnE ⊢
    rw [e2]
    exact castle_attackers b _ hs.cons (make_shape b mv hs hwf hsl).cons _ _ _ _ _ CF (castleLine _ sd) hnE s
  · refine isLegal_noncastle b mv hs hwf hsl (nonCastle_of b mv hsl fun sd h => hc ⟨sd, h⟩) k fun hsk hep => ?_
    -- the king does not capture en passant
    rw [← hsk, hsrc, hcell] at hking
    obtain rfl := (mk_inj hking).2
    rw [hep] at hS
    cases hS

end Owl.Lemmas
