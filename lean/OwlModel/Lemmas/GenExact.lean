/-
C06: each component of the semilegal generator emits exactly the well-formed semilegal moves of one class, stated first on
the squares and then as a membership; together (`mem_genWith_iff`) the generator with flags emits exactly those whose
class (`inClass`) is switched on.
-/
import OwlModel.Lemmas.SemiChar
import OwlModel.Lemmas.Valid

namespace Owl.Lemmas
open Owl Owl.Impl

/-- `allowed_mask`: the empty squares if simple moves are wanted, the enemy's men if captures are -/
theorem allowed_has (b : Board) (hb : Consistent b) (fs fc : Bool) (d : Sq) :
    (allowedMask b b.r.side fs fc).has d = true ↔
      ((b.get d = Cell.empty ∧ fs = true) ∨ ((b.get d).color = some b.r.side.inv ∧ fc = true)) := by
  have hc := color_has b hb
  have he : (0 : Cell) = Cell.empty := rfl
  by_cases h0 : b.get d = Cell.empty <;>
    cases fs <;> cases fc <;> simp [allowedMask, hc, all_has b hb, he, color_inv_iff, h0, empty_color]

theorem mem_pieces_iff (b : Board) (hb : Consistent b) (fs fc : Bool) (mv : Move) :
    (mv ∈ genKN b b.r.side fs fc .knight ++ genKN b b.r.side fs fc .king ++ genBRQ b b.r.side fs fc) ↔
      (SL b mv ∧ mv.kind = .simple ∧ mv.cell ≠ Cell.mk b.r.side .pawn
        ∧ ((b.get mv.dst = Cell.empty ∧ fs = true) ∨ (b.get mv.dst ≠ Cell.empty ∧ fc = true))) := by
  rw [mem_gen_pieces]
  simp only [piece2_has b hb, allowed_has b hb, decide_eq_true_eq]
  constructor
  · rintro ⟨p, s, d, hp, h1, h2, h3, rfl⟩
    have hown : (b.get d).color ≠ some b.r.side :=
      h3.elim (fun h => empty_not_own b h.1) fun h => ((color_inv_iff _ _).mp h.1).1
    exact ⟨(sl_piece b p hp s d).mpr ⟨h1, h2, hown⟩, rfl, fun e => hp (mk_inj e).2,
      h3.imp_right fun h => ⟨color_ne_empty h.1, h.2⟩⟩
  · rintro ⟨hsl, hk, hnp, hcls⟩
    obtain ⟨piece, hcell, _, hmv⟩ := sl_normal b mv hsl
    rw [hk] at hmv
    have hp : piece ≠ .pawn := by intro e; subst e; exact hnp hcell
    obtain ⟨g1, g2, g3⟩ := (sl_piece b piece hp mv.src mv.dst).mp (hmv ▸ hsl)
    exact ⟨piece, mv.src, mv.dst, hp, g1, g2,
      hcls.imp_right fun h => ⟨(color_inv_iff _ _).mpr ⟨g3, h.1⟩, h.2⟩, hmv⟩

/-- the pawns `gen_pawn_simple` and `gen_pawn_capture` hand to the promoting and to the plain loops -/
def pawnsOn (b : Board) (c : Color) : Bool → BB
  | true => b.piece2 c .pawn &&& rankBB (promoteSrcRank c)
  | false => b.piece2 c .pawn &&& ~~~ rankBB (promoteSrcRank c)

theorem pawnsOn_has (b : Board) (hb : Consistent b) (c : Color) (pr : Bool) (s : Sq) :
    (pawnsOn b c pr).has s = true ↔ (b.get s = Cell.mk c .pawn ∧ onPromoRank c pr s) := by
  cases pr <;> simp [pawnsOn, onPromoRank, BB.has_and, BB.has_not, piece2_has b hb, rankBB_has]

theorem isPromo_iff (k : Kind) : k.promote.isSome = true ↔ (k = .promN ∨ k = .promB ∨ k = .promR ∨ k = .promQ) := by
  cases k <;> simp [Kind.promote]

theorem empty_of_all (b : Board) (hb : Consistent b) (d : Sq) : b.all.has d = false ↔ b.get d = Cell.empty := by
  rw [all_has b hb]
  show _ ↔ b.get d = 0
  simp

theorem sl_kind_cell (b : Board) (mv : Move) (hsl : SL b mv) :
    ((mv.kind = .double ∨ mv.kind = .ep ∨ mv.kind.promote.isSome = true) → mv.cell = Cell.mk b.r.side .pawn)
    ∧ ((mv.kind = .castleK ∨ mv.kind = .castleQ) → mv.cell = Cell.mk b.r.side .king) := by
  obtain ⟨p, hc, hm, _⟩ := sl_facts b mv hsl.1 hsl.2
  rw [hc]
  exact ⟨fun hk => by rw [(matchesPiece_kinds hm).2.2.2 hk], fun hk => by rw [(matchesPiece_kinds hm).2.2.1 hk]⟩

/-- a one-square pawn move, with promotion (`pr`) or without: the pawn stands on `s`, on the last rank but one exactly if
it promotes, and goes one rank ahead, straight onto an empty square or aslant onto an enemy man (`hv`: no pawn stands on
the first or last rank, which `is_well_formed` asks of a `simple` pawn move) -/
theorem pawn_step_sq (b : Board) (hv : Valid b) (pr : Bool) (k : Kind) (hk : promoKind pr k) (s d : Sq) :
    SL b (mkMove b.r.side k .pawn s d) ↔
      (b.get s = Cell.mk b.r.side .pawn ∧ onPromoRank b.r.side pr s ∧ rankStep b.r.side s d ∧ PawnTo b s d) := by
  rw [sl_mk]
  refine and_congr_right fun g1 => ?_
  cases pr
  · obtain rfl : k = .simple := hk
    constructor
    · intro h
      cases h with
      | pawn _ _ q0 q7 gs gd => exact ⟨(pg_ranks _ s d gs).mp ⟨q0, q7⟩, gs, gd⟩
      | piece hg => cases hg
      | promo hk => cases hk
    · rintro ⟨hr, gs, gd⟩
      obtain ⟨r0, r7⟩ := hv.checks.pawns _ _ g1
      obtain ⟨q0, q7⟩ := (pg_ranks _ s d gs).mpr hr
      exact .pawn r0 r7 q0 q7 gs gd
  · constructor
    · intro h
      cases h with
      | promo _ g2 g3 gd => exact ⟨g2, (pg_promo _ s d g2).mp g3, gd⟩
      | piece | pawn | double | ep => cases hk
    · rintro ⟨g2, gs, gd⟩; exact .promo hk g2 ((pg_promo _ s d g2).mpr gs) gd

theorem pawn_cap_sq (b : Board) (hv : Valid b) (pr : Bool) (k : Kind) (hk : promoKind pr k) (s d : Sq) :
    (SL b (mkMove b.r.side k .pawn s d) ∧ s.file ≠ d.file) ↔
      (b.get s = Cell.mk b.r.side .pawn ∧ onPromoRank b.r.side pr s ∧ (b.get d).color = some b.r.side.inv
        ∧ (((d.rank ≠ behindRank b.r.side ∧ d.file ≠ 7) ∧ s = addU d (-(leftDelta b.r.side)))
          ∨ ((d.rank ≠ behindRank b.r.side ∧ d.file ≠ 0) ∧ s = addU d (-(rightDelta b.r.side))))) := by
  rw [pawn_step_sq b hv pr k hk, ← pg_cap]
  constructor
  · rintro ⟨⟨g1, g2, gs, gd⟩, hne⟩
    obtain ⟨h1, h2⟩ := gd.resolve_left fun h => hne h.1
    exact ⟨g1, g2, h2, h1, gs⟩
  · rintro ⟨g1, g2, hc, h1, gs⟩
    exact ⟨⟨g1, g2, gs, Or.inr ⟨h1, hc⟩⟩, file_ne_of_diff h1⟩

/-- a double step: the pawn two squares behind the destination on its start rank, both squares ahead of it empty -/
theorem pawn_double_sq (b : Board) (s d : Sq) :
    SL b (mkMove b.r.side .double .pawn s d) ↔
      (b.get s = Cell.mk b.r.side .pawn ∧ s.rank = doubleSrcRank b.r.side ∧ d.rank ≠ behindRank b.r.side
        ∧ (addU d (-(forwardDelta b.r.side))).rank ≠ behindRank b.r.side
        ∧ b.get (addU d (-(forwardDelta b.r.side))) = Cell.empty ∧ b.get d = Cell.empty
        ∧ s = addU d (-(2 * forwardDelta b.r.side))) := by
  rw [sl_pawn_double]
  obtain ⟨pd1, pd2⟩ := pg_double b.r.side s d
  constructor
  · rintro ⟨g1, g2, g3, g4, g5, g6⟩
    obtain ⟨k1, k2, k3, _⟩ := pd1.mp ⟨g2, g3, g4⟩
    exact ⟨g1, g3, k1, k2, pd2 g2 g3 g4 ▸ g5, g6, k3⟩
  · rintro ⟨g1, g3, k1, k2, h5, h6, k3⟩
    obtain ⟨f1, f2, f3⟩ := pd1.mpr ⟨k1, k2, k3, g3⟩
    exact ⟨g1, f1, f2, f3, pd2 f1 f2 f3 ▸ h5, h6⟩

/-- en passant, given the marked pawn `p`: the capturing pawn stands beside it -/
theorem pawn_ep_sq (b : Board) (hv : Valid b) (p : Sq) (hep : b.r.ep = some p) (s d : Sq) :
    SL b (mkMove b.r.side .ep .pawn s d) ↔
      (b.get s = Cell.mk b.r.side .pawn ∧ d = addU p (forwardDelta b.r.side)
        ∧ ((p.file ≠ fileA ∧ s = addU p (-1)) ∨ (p.file ≠ fileH ∧ s = addU p 1))) := by
  obtain ⟨hrank, _, (hfree : b.get (addU p (forwardDelta b.r.side)) = Cell.empty)⟩ := hv.shape.ep p hep
  rw [sl_pawn_ep, ← pg_ep b.r.side p s hrank]
  constructor
  · rintro ⟨g1, g2, g3, g4, _, p', hp', g6, g7⟩
    rw [hep] at hp'; cases hp'
    exact ⟨g1, g7, g2, g7 ▸ g3, g7 ▸ g4, g6⟩
  · rintro ⟨g1, rfl, g2, g3, g4, g6⟩
    exact ⟨g1, g2, g3, g4, by rw [hfree, empty_color]; simp, p, hep, g6, rfl⟩

/-- castling: the rights, the free path and the two safe squares, as `gen_castling` tests them -/
theorem castle_sq (b : Board) (hv : Valid b) (sd : Side) :
    SL b (mkMove b.r.side (castleKind sd) .king (kingHomeSq b.r.side) (kingTo b.r.side sd)) ↔
      (rHas b.r.castling b.r.side sd = true ∧ (castlingPass b.r.side sd &&& b.all).isEmpty = true
        ∧ isCellAttacked b (kingHomeSq b.r.side) b.r.side.inv = false
        ∧ isCellAttacked b (rookTo b.r.side sd) b.r.side.inv = false) := by
  have hb := hv.shape.cons
  rw [sl_castle, BitVec.and_comm (castlingPass b.r.side _)]
  constructor
  · rintro ⟨_, _, _, _, h⟩; exact h
  · rintro ⟨h1, h2, h3, h4⟩
    -- what the generator does not test: the king stands at home because the right is there (`Shape.rights`), and its
    -- destination lies on the path just found free, so it holds no own man
    refine ⟨rfl, rfl, (hv.shape.rights b.r.side _ h1).1, ?_, h1, h2, h3, h4⟩
    have he : b.get (kingTo b.r.side sd) = Cell.empty := by
      cases sd with
      | king => exact ((pass_iff b hb b.r.side).1.mp h2).2
      | queen => exact ((pass_iff b hb b.r.side).2.mp h2).2.1
    rw [he, empty_color]
    simp

theorem mem_single_iff (b : Board) (hv : Valid b) (pr : Bool) (mv : Move) :
    mv ∈ genPawnSingle b b.r.side pr (pawnsOn b b.r.side pr) ↔
      (SL b mv ∧ mv.cell = Cell.mk b.r.side .pawn ∧ promoKind pr mv.kind ∧ b.get mv.dst = Cell.empty) := by
  have hb := hv.shape.cons
  rw [mem_genPawnSingle]
  simp only [pawnsOn_has b hb, empty_of_all b hb]
  constructor
  · rintro ⟨s, d, k, hg, ⟨h2, h3⟩, he, hk, rfl⟩
    obtain ⟨f, gs⟩ := (pg_push _ s d).mpr hg
    exact ⟨(pawn_step_sq b hv pr k hk s d).mpr ⟨h2, h3, gs, Or.inl ⟨f, he⟩⟩, rfl, hk, he⟩
  · rintro ⟨hsl, hcell, hk, he⟩
    have hmv := mkMove_eta mv _ _ hcell
    obtain ⟨p1, p2, gs, hto⟩ := (pawn_step_sq b hv pr mv.kind hk mv.src mv.dst).mp (hmv ▸ hsl)
    obtain ⟨f, _⟩ := hto.resolve_right fun h => color_ne_empty h.2 he
    exact ⟨mv.src, mv.dst, mv.kind, (pg_push _ _ _).mp ⟨f, gs⟩, ⟨p1, p2⟩, he, hk, hmv⟩

theorem mem_double_iff (b : Board) (hv : Valid b) (mv : Move) :
    mv ∈ genPawnDouble b b.r.side (b.piece2 b.r.side .pawn &&& rankBB (doubleSrcRank b.r.side)) ↔
      (SL b mv ∧ mv.kind = .double) := by
  have hb := hv.shape.cons
  rw [mem_genPawnDouble]
  simp only [BB.has_and, piece2_has b hb, rankBB_has, Bool.and_eq_true, decide_eq_true_eq, empty_of_all b hb]
  constructor
  · rintro ⟨s, d, ⟨h1, h2, rfl⟩, ⟨h3, h4⟩, h5, h6, rfl⟩
    exact ⟨(pawn_double_sq b _ d).mpr ⟨h3, h4, h1, h2, h5, h6, rfl⟩, rfl⟩
  · rintro ⟨hsl, hk⟩
    have hmv := mkMove_eta mv _ _ ((sl_kind_cell b mv hsl).1 (Or.inl hk))
    rw [hk] at hmv
    obtain ⟨p1, p2, g1, g2, p3, p4, e⟩ := (pawn_double_sq b mv.src mv.dst).mp (hmv ▸ hsl)
    exact ⟨mv.src, mv.dst, ⟨g1, g2, e⟩, ⟨p1, p2⟩, p3, p4, hmv⟩

theorem mem_capture_iff (b : Board) (hv : Valid b) (pr : Bool) (mv : Move) :
    mv ∈ genPawnCaptureOf b b.r.side pr (pawnsOn b b.r.side pr) ↔
      (SL b mv ∧ mv.cell = Cell.mk b.r.side .pawn ∧ promoKind pr mv.kind ∧ b.get mv.dst ≠ Cell.empty) := by
  have hb := hv.shape.cons
  rw [mem_genPawnCaptureOf]
  simp only [pawnsOn_has b hb, color_has b hb, decide_eq_true_eq]
  constructor
  · rintro ⟨s, d, k, hg, ⟨h2, h3⟩, hc, hk, rfl⟩
    obtain ⟨f, gs⟩ := (pg_cap _ s d).mpr hg
    exact ⟨(pawn_step_sq b hv pr k hk s d).mpr ⟨h2, h3, gs, Or.inr ⟨f, hc⟩⟩, rfl, hk, color_ne_empty hc⟩
  · rintro ⟨hsl, hcell, hk, he⟩
    have hmv := mkMove_eta mv _ _ hcell
    obtain ⟨p1, p2, gs, hto⟩ := (pawn_step_sq b hv pr mv.kind hk mv.src mv.dst).mp (hmv ▸ hsl)
    obtain ⟨f, hc⟩ := hto.resolve_left fun h => he h.2
    exact ⟨mv.src, mv.dst, mv.kind, (pg_cap _ _ _).mp ⟨f, gs⟩, ⟨p1, p2⟩, hc, hk, hmv⟩

theorem mem_ep_iff (b : Board) (hv : Valid b) (mv : Move) :
    mv ∈ genPawnEnpassant b b.r.side ↔ (SL b mv ∧ mv.kind = .ep) := by
  have hparts : SL b mv ∧ mv.kind = .ep → mv = mkMove b.r.side .ep .pawn mv.src mv.dst := by
    rintro ⟨hsl, hk⟩
    have hmv := mkMove_eta mv _ _ ((sl_kind_cell b mv hsl).1 (Or.inr (Or.inl hk)))
    rwa [hk] at hmv
  unfold genPawnEnpassant
  cases hep : b.r.ep with
  | none =>
    simp only [List.not_mem_nil, false_iff]
    intro h
    have hsl := hparts h ▸ h.1
    obtain ⟨_, _, _, _, _, p, hp, _⟩ := (sl_pawn_ep b mv.src mv.dst).mp hsl
    rw [hep] at hp; cases hp
  | some p =>
    simp only [List.mem_append, List.mem_ite_nil_right, List.mem_singleton, Bool.and_eq_true, ne_eq, decide_eq_true_eq]
    constructor
    · rintro (⟨⟨h1, h2⟩, rfl⟩ | ⟨⟨h1, h2⟩, rfl⟩)
      · exact ⟨(pawn_ep_sq b hv p hep _ _).mpr ⟨h2, rfl, Or.inl ⟨h1, rfl⟩⟩, rfl⟩
      · exact ⟨(pawn_ep_sq b hv p hep _ _).mpr ⟨h2, rfl, Or.inr ⟨h1, rfl⟩⟩, rfl⟩
    · intro h
      have hmv := hparts h
      obtain ⟨g1, g2, ⟨k1, k2⟩ | ⟨k1, k2⟩⟩ := (pawn_ep_sq b hv p hep mv.src mv.dst).mp (hmv ▸ h.1)
      · exact Or.inl ⟨⟨k1, k2 ▸ g1⟩, k2 ▸ g2 ▸ hmv⟩
      · exact Or.inr ⟨⟨k1, k2 ▸ g1⟩, k2 ▸ g2 ▸ hmv⟩

theorem mem_castle_iff (b : Board) (hv : Valid b) (mv : Move) :
    mv ∈ genCastling b b.r.side ↔ (SL b mv ∧ (mv.kind = .castleK ∨ mv.kind = .castleQ)) := by
  rw [mem_genCastling]
  constructor
  · rintro (⟨h1, h2, h3, h4, rfl⟩ | ⟨h1, h2, h3, h4, rfl⟩)
    · exact ⟨(castle_sq b hv .king).mpr ⟨h1, h2, h3, h4⟩, Or.inl rfl⟩
    · exact ⟨(castle_sq b hv .queen).mpr ⟨h1, h2, h3, h4⟩, Or.inr rfl⟩
  · rintro ⟨hsl, hk⟩
    have hmv := mkMove_eta mv _ _ ((sl_kind_cell b mv hsl).2 hk)
    rcases hk with hk | hk <;> rw [hk] at hmv
    · obtain ⟨g1, g2, _⟩ := (sl_castle b .king mv.src mv.dst).mp (hmv ▸ hsl)
      rw [g1, g2] at hmv
      obtain ⟨h1, h2, h3, h4⟩ := (castle_sq b hv .king).mp (hmv ▸ hsl)
      exact Or.inl ⟨h1, h2, h3, h4, hmv⟩
    · obtain ⟨g1, g2, _⟩ := (sl_castle b .queen mv.src mv.dst).mp (hmv ▸ hsl)
      rw [g1, g2] at hmv
      obtain ⟨h1, h2, h3, h4⟩ := (castle_sq b hv .queen).mp (hmv ▸ hsl)
      exact Or.inr ⟨h1, h2, h3, h4, hmv⟩

/-- which generator flag a semilegal move falls under -/
def inClass (b : Board) (mv : Move) (fs fc fp fz : Bool) : Bool :=
  match mv.kind with
  | .null => false
  | .castleK | .castleQ => fz
  | .ep => fc
  | .double => fs
  | .simple => if b.get mv.dst = Cell.empty then fs else fc
  | _ => if b.get mv.dst = Cell.empty then fp else fc

theorem inClass_all (b : Board) (mv : Move) (hsl : isSemilegal b mv = true) :
    inClass b mv true true true true = true := by
  have h := (semilegal_base b mv hsl).1
  unfold inClass
  cases hk : mv.kind <;> simp [hk] at h ⊢

theorem mem_if_list {α : Type} (c : Bool) (l : List α) (x : α) : x ∈ (if c = true then l else []) ↔ (c = true ∧ x ∈ l) :=
  List.mem_ite_nil_right

theorem genWith_split (b : Board) (c : Color) (fs fc fp fz : Bool) (mv : Move) :
    mv ∈ genWith b c fs fc fp fz ↔
      ((fs = true ∧ mv ∈ genPawnSingle b c false (pawnsOn b c false))
      ∨ (fs = true ∧ mv ∈ genPawnDouble b c (b.piece2 c .pawn &&& rankBB (doubleSrcRank c)))
      ∨ (fp = true ∧ mv ∈ genPawnSingle b c true (pawnsOn b c true))
      ∨ (fc = true ∧ mv ∈ genPawnCaptureOf b c false (pawnsOn b c false))
      ∨ (fc = true ∧ mv ∈ genPawnCaptureOf b c true (pawnsOn b c true))
      ∨ (fc = true ∧ mv ∈ genPawnEnpassant b c)
      ∨ (mv ∈ genKN b c fs fc .knight ++ genKN b c fs fc .king ++ genBRQ b c fs fc)
      ∨ (fz = true ∧ mv ∈ genCastling b c)) := by
  unfold genWith genPawnSimple genPawnCapture pawnsOn
  cases fs <;> cases fc <;> cases fp <;> cases fz <;>
    simp only [Bool.or_self, Bool.or_true, Bool.or_false, Bool.false_eq_true, if_true, if_false, List.mem_append,
      List.append_nil, List.nil_append, false_and, true_and, false_or, or_false, or_assoc]

/-- C06: the generator with flags (simple, capture, simple-promote, castling) emits exactly the well-formed semilegal
moves of the corresponding classes -/
theorem mem_genWith_iff (b : Board) (hv : Valid b) (fs fc fp fz : Bool) (mv : Move) :
    mv ∈ genWith b b.r.side fs fc fp fz ↔ (SL b mv ∧ inClass b mv fs fc fp fz = true) := by
  rw [genWith_split, mem_single_iff b hv, mem_single_iff b hv, mem_double_iff b hv, mem_capture_iff b hv,
    mem_capture_iff b hv, mem_ep_iff b hv, mem_castle_iff b hv, mem_pieces_iff b hv.shape.cons fs fc mv]
  have hpromo : mv.kind.promote.isSome = true →
      inClass b mv fs fc fp fz = (if b.get mv.dst = Cell.empty then fp else fc) := by
    intro hk
    rcases (isPromo_iff _).mp hk with h | h | h | h <;> simp [inClass, h]
  constructor
  · rintro (⟨hf, hsl, _, (hk : mv.kind = .simple), he⟩ | ⟨hf, hsl, hk⟩ | ⟨hf, hsl, _, (hk : mv.kind.promote.isSome = true), he⟩
      | ⟨hf, hsl, _, (hk : mv.kind = .simple), he⟩ | ⟨hf, hsl, _, (hk : mv.kind.promote.isSome = true), he⟩
      | ⟨hf, hsl, hk⟩ | ⟨hsl, hk, _, hcls⟩ | ⟨hf, hsl, hk⟩) <;> refine ⟨hsl, ?_⟩
    · simp [inClass, hk, he, hf]
    · simp [inClass, hk, hf]
    · rw [hpromo hk]; simp [he, hf]
    · simp [inClass, hk, he, hf]
    · rw [hpromo hk]; simp [he, hf]
    · simp [inClass, hk, hf]
    · rcases hcls with ⟨he, hf⟩ | ⟨he, hf⟩ <;> simp [inClass, hk, he, hf]
    · rcases hk with hk | hk <;> simp [inClass, hk, hf]
  · rintro ⟨hsl, hcls⟩
    by_cases hpr : mv.kind.promote.isSome = true
    · rw [hpromo hpr] at hcls
      have hcell := (sl_kind_cell b mv hsl).1 (Or.inr (Or.inr hpr))
      by_cases he : b.get mv.dst = Cell.empty
      · rw [if_pos he] at hcls
        exact Or.inr (Or.inr (Or.inl ⟨hcls, hsl, hcell, hpr, he⟩))
      · rw [if_neg he] at hcls
        exact Or.inr (Or.inr (Or.inr (Or.inr (Or.inl ⟨hcls, hsl, hcell, hpr, he⟩))))
    · unfold inClass at hcls
      cases hk : mv.kind <;> simp only [hk, Kind.promote, Option.isSome_some, not_true_eq_false] at hpr hcls
      · cases hcls
      · -- simple: a pawn or a piece, onto an empty or an occupied square
        by_cases hcell : mv.cell = Cell.mk b.r.side .pawn <;> by_cases he : b.get mv.dst = Cell.empty <;>
          simp only [he, if_true, if_false] at hcls
        · exact Or.inl ⟨hcls, hsl, hcell, rfl, he⟩
        · exact Or.inr (Or.inr (Or.inr (Or.inl ⟨hcls, hsl, hcell, rfl, he⟩)))
        · exact Or.inr (Or.inr (Or.inr (Or.inr (Or.inr (Or.inr (Or.inl ⟨hsl, rfl, hcell, Or.inl ⟨he, hcls⟩⟩))))))
        · exact Or.inr (Or.inr (Or.inr (Or.inr (Or.inr (Or.inr (Or.inl ⟨hsl, rfl, hcell, Or.inr ⟨he, hcls⟩⟩))))))
      · exact Or.inr (Or.inr (Or.inr (Or.inr (Or.inr (Or.inr (Or.inr ⟨hcls, hsl, Or.inl rfl⟩))))))
      · exact Or.inr (Or.inr (Or.inr (Or.inr (Or.inr (Or.inr (Or.inr ⟨hcls, hsl, Or.inr rfl⟩))))))
      · exact Or.inr (Or.inl ⟨hcls, hsl, rfl⟩)
      · exact Or.inr (Or.inr (Or.inr (Or.inr (Or.inr (Or.inl ⟨hcls, hsl, rfl⟩)))))

end Owl.Lemmas
