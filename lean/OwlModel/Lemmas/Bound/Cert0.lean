/-
C19 capacity bound: LP-duality certificates (trees) for White with the king on eight squares of files e–h; re-checked by the
kernel in one evaluation (`cert0_ok`). Generated data; see Lemmas/Bound/Certificate.lean for the checker.
-/
import OwlModel.Lemmas.Bound.Certificate

namespace Owl.Props.C19
open Owl Owl.Lemmas Owl.Props

def tree_w_4 : Tree := (.node 51 (.node 20 (.node 8 (.leaf 5870 0x8000800080008d58800084a0899684f6800083e8800089d7892f88218000810e8000843a80008bb8800089d686fc7d268b36893f80008a8f7c1889e28000793e800089068000896680008c528482783080008a827ead867d800089d780007c1880008b4c800083d2800087d087d080008fbe8c5480008000800083487f6083e8800083e88000895a89ab80b8800088f38000843a80008970800084398000850b8000893f8000869e800085ee79538123800089e58000899f800085fa74487d7080008a8280008a8f7830886a7c4c803481cf87647dae8966800085ef800080348000886c8000867d800083e87c18841c7c188bb8800083d280007f607c1888048b36843a80008a0f80007cd07c188bd48000893f7830857280008051800087ec8000890677628702744882068c03840480008a827ae6869e800083e37cc881eb819686e17617899f80008482800081eb8000886c7aef8a8f80a782077c1881eb800087d080008966800080007c1885b780008b5a8000867d80007b787c18899f7d87893f800087d0800078e880008cf7796689068000887180007c697d57890f76fa8a828000854080b4820680008527800086e18000870284a483e37309852778cc886c8000869e7ed582bd7c188527800087d08000899f76298058800085278000887780008a8f78307c187d5787d08000899f800089667830783080008bb880008906800087d08a0078b27c188d6680008a827eb6868680c87c698000897e7af586e17cb9887180008206800085968000886c7d708540783083e37d8f855f800087d08ae787027c1882bd70ae855f7cbf88777830869e800080587fb287828000899f8000899f7c167c16800087998000867580008a8f78307a6980008b8180008bb8800082e3874e7c9a80008bb886a0874e800087d07c1880007cc687d07c18886c800086867c1883e87f7e84147c1887d080008871800085b97b96841480008877800085407c1882bd7b9684148000899f7c1887027c708238754d8414800086758000887f7c187ffe800087fc8000831a8000899f7e517e5180008be47c188b36800083e8783080828000874e78308bb87b1382e3783083e87c9a8366783087d0800087d0783087d077ae7f7e78308877783086867c1889a17b967e507de7899f783088717830860b79c67ed37abd86757830879d783086207cf182bb7b4a831a7830894b783083e67c6486a3836692577c188c6778308ce580008a8b80008fa0800080008000846a874e800080008bb8800083e8800087d0874e7f7e800088d5800082e380008bb87c187f7e800080008000800080008000800080008000867580008686800089f37c1880008000831a80008a1980008a087c187fb2800083e880008b85800087ce7bca7fb28000800080008d33800086218000839a) (.leaf 5806 0x8000800080008bb880008420800086d6800083e8800088b080008728800082ee8000833180008bb8800088bf80007f068000892d80008a9282ee87d080007b1e800087c18000896780008d56858678307c188bb8800086ac80008832844a7c187cef8c8f800083e8800086378637800080008d5d80008000800082cf800083e8800083e8800086dd8000803880008bb1800083318000887480008340800087c98000892d800084c8800084d77c1183e1800087c1800089418000855b744f80507c188bb887148a928000896e7c118050800088a7800089678000844a78868056800089757edc86ac8000824f868e843e8af68bb8800083e880007ee7800088267c18833180008b7580007c5088088bb88000892d7830865980007f58870e87d0782187c180008874800080ef7f4d83e880008bb8714080e0862e855b800084ba800084bf79a189417db68586801783287cd9889180008a9274488062864c8328800087d07daf896780007e67818f8710870e8a0b800086ac80007aff80008af87d758a87800087d08457786880008bf0800087c180008b7582647b707cda880880008bb8800086598000807d776e8420737184bf83fd88748000855b800084208000889181218000764c83a280008420867487d0800089417c7a7c7a748084208000862380008a9278307e29800087d08000895f8000896783e8783080008bb8800087d0800087d07951795180008dbc80008bb8800085097c187c18800089d4800084bf7fbd8b75803e807d777285ec78308891800086598000855b7f3e8268800087d07b568874800083a27c1882687e53862380eb80007c1880007c1882688000895f8000894183267fc27c18844c80008bb88af68a92800078307c18883480008bb8800082047c187d3980008bb8832684bf800087d07c18824f800087d0800088917d3985097c1883767dcd859d87ce87d080008b757c1889437293859d7c1886237e89874c7c1883a27c18859d8000895f7cda88747b567f3e7dcd859d80008bb87f3e7dc8800083aa80008985800087d07c188941859d783080008d6d7f3e87d0800083e878308121800089d478308ad57a348204783083e87d3985ec75db857b800087d07830875e79c3820478308623783085097c188d657b567e1c7da7895f78308b757830862079c77bb980008bb878308b3478308326776e7c9c800087d078308c5c78308792776e7af080007c189bbe800080007c189a967ed880008ebd800080008000865e8000819380008963800083e8800087d080008193800087d08000820480008b467c1881938000800080008000800080008000800080008bb880008509800089d47c187c18800087d080008bb88000870e78307c1880007c1880008f1c80008b7a80008000800080008000904480008000800083e8)) (.leaf 5812 0x8000800080008bb880008713800083e8800083e880008afb800087d080008000800087d08000888180008a4a80007c18800087f880008ad37c188bb887d07830800089868000868880008e1186a578957c1889c0800084bf80008bb888357c7d80008a9e800083e8800087c98000806580008cf9800080008000856e8000844d800083e88000888d8000832b80008713800087d0800087d0871383e88000832b7c4087f8800087138000866283037f43800089868000885d800087d075ee7d01800089c07b338ad37f028a2980008000800086b680008688800087d0744881a680008886871384bf800083e18000858e800087d0800083e88000818680008976800087d07c1883e880007f438afb8bb8800087f8797e8536800081b485c587d079e689867efb86cb8000827a7e9283e8800089c0792f84e7800083e87e4580cf744886b68000885d800086d2832b80cf744885b880008ad3832b855a800080cf783083e88000868880007ff9871384b77c188bb8800084bf80007d9e863d889f800087f87eac867c883f7b5b80008ce48000898680008000767c81b4800088fc7e0889c0800085368000827a74488543800086b67c1886cb7c1883e87c188543800085b8800084e7744886d2800085437c18800074d5885d8000855a80008543800087d080008ad385b87c11798b87ff80008a8e87138688800079b680008be780008986800087d0800078cb80008c93800089c0800082947dcc81b4800088ab800086b6800080007830827a7f43888b800085b88000853674488000832b888b80008000783086cb800086d27f43888b7c1883e8750584e78656855a8000888b80008a8e8000885d8713783078308b98800083e880008ad38713787880008f807c188bb8800081b489477cb3800083e87ee687d0800087d080008713783080007de885b87c188294800083e87c18800080007830a26b783080007c18a6537830800083e87c188536800086d27830800080008a8e800086cb7c18855a78308000800083e8800085a37c187c18800083e8800086f080008b937c187c60800087d07c188bb8800083e87830809b80008678783088ea79e481b4783089847d8f829078308000800087d0783087d077737ea8783083e8783082947c1880007b5b80007ed68a8e7830800078308862789d8000783083e878308862783089427f4381287f2086f078308ab37830800078538510800083e87f43898b78308048800088f880008cd280008000800084838000855f80008000800083e880008d6c8afb855f800083e8800081b480008bb87d8f855f80008000800080008000800080008000800083e8800083e880008c4a7c18829a800086f08000800080008d2a8713829a800083e880008c4a800083e88682829a8000800080008e9b80008430800083e8)) (.node 47 (.leaf 5667 0x8000800080008d41800085d080008312800083e880008e177d2a84fa80007f2a800087d080008bb88000875980007b428a6b88837c18800080008bd0800081d07c1887d0800088768000800085dd85dd7c1880008a6b87d080008ee480007f6e80008a80800083e88000872f87ba808c80008dc780008000800083e880008474800083e880008883800081e8800087d0800087d08683895980008112800083e88000888380008a2f78308371868380008000868378308ba0800087e884007c1880007c18a1db7c1880007c189df3783083568698800088767f448afc7c187c18800089df800088fd8b1783477830800080008a43800083e880008000800083e8800087d080008bb8829b800080008fc4800088838000849b78307d2a80008bdc7acb868382c1882379577f89800087f47c187c1880008a2f800087e87acb87f4800082b080008ba085127fdf71d187f4829b889274487e8980008714800087f47830865b7cbe887680007f5f800087f480008683800087d086837c1880008bb87ccb8883800087d085d07a1880008bb88000868380008aa678307d2a800087d07c1880008683849b800082497448847080008163828388237848882c7c1884708000889276a78a2f803c7ef2800084707e8b827380008ba0711c83a08000847080008683800083e878307b7778b888588000893d800088768000783080008c4080008683800087d080007c1880008bb8783083e87df185c180008000800087d07830816380008aa67e618249800087d080008892776e83d8800087e8759581d18000827380008823800082da76e381d17acb868380008a2f7fb883a07a0181d18000893d7fe88ba07b8d7b8d800085b980008c82800083e87c187c18800089a1800087d08000829b8683800080008bb88000829b800087d07c1883e8800087d080008892800085c17c1883e8744883e87c1882737d268aa67c1887e88000812280008683800083d87c1886c2783081228000893d7c188823800083a0795281228000877580008a2f7c187f758000850a8000859180008ba0757d7c00800088f27c188683800083e8783083e8800087d078308a6b78308000783087d07eb383e8783083e8800087d0783087d076e38000783087d0783085c17c188bb87acb7c187d85893d79f88aa674e3875d7ae37ae37bbd87757830870e7830845c7b267ecb7dc1859178308a837830835d792282b3800083e87c188bb87acb7fe88000869b80008e5380008000800087d080008000800087d0800083e880008bb87acb7eb380008bb88000800080008bb87c187eb38000800080008000800080008000800080008775800085c180008b457da87da88000859180008aa6800088447c187da8800083e880008af680008745783080008000800080008e6b800083d0800083e8) (.leaf 6000 0x800080008fa08fa080008000800087d0800083e8800083e880008bb8800083e880008000800087d080008fa087d0800080008bb88000800080008bb887d0800080008fa08000891d7c188000829b7eb37c187d65800087d08bb89047800081f4800089c4800083e8800083e889c485dc8bb88bb880008000800081f4800089c4800083e87c188fa083e87c18800087d08bb8800080008bb8800087d0783083e880008bb87830800080008bb88000800080008fa0800083e887d087d078307c188000797da3287c1880007c18a1db7830800085dc7d65891d80008c5f829b7c18800087d0800087d0800080007c1880007fad8f4d800083e880007e0c7c1883e8800080009f407c18800078309b58800087d08bb880008bb8800083e878307c1880008fa083e887d07c1887d0783078307830800080007f0687d087d078307b1e749b843b744883e88f4d800080007f068fa087d07448800080008877744882ee80008b658000891d80007c18800086d680008abe800087d084e27a2480008abe80008bb8800087d083e8783080008bb880008fa080007c1874488341800087d07c1880008000891d800087d0744883e88000843b7c1887d07c1887d0800083957c1887d080007f067c188000783083958b118b657c1883e87107848f80008395800089c4800083e87c187c187bc5877d80008abe8000891d8395783080008b6580008fa08000862f81a17bc5800085dc800083e87db985897f598341783081f48000843b7c1880007c1887d07c6b80537a77862f8000891d783087d08000805380008b65783087d0749b81f47c188247800089c4783082ee8000848f7830862f80008abe800083e876e37eb380008a17800089c4800083e88bb87bc57c188dff7c1887d08000843b8b657fad80008bb87c18862f8000862f80008341783087d07c18862f800085897c1887d07c1883e87c188b657c1883e8800087d07c1880537e0c89c47d65891d8000843b7cbf805380008abe800087d08000848f78308053800089c4800086d68000829b8000843b800087d0800087d07c187fad7fad88237c188a17800083e878308395800085dc78308a177c6b843b783087297bc581f478308b657e5f862f783087d079d17e0c783089c4783085897c188bb87b1e7c6b7f068abe783087d078308823792a7cbf7e0c89c47830891d7830848f7a247d65800087d0783087d0783086837830814d800083e87c188abe783083958000853580008dff800080008000877d7c18800080008bb8800083e880008b117cbf7cbf80008abe8000843b80008bb87c187cbf80008000800080008000800080008000800089c48000858980008c0b7c187c18800087d080008bb8800087d07c187c18800083e88000891d80008a6b783080008000800080008c0b8000877d800083e8)))
def tree_w_5 : Tree := (.node 6 (.leaf 5442 0x8000800080008eba868882a0800083e8800083e87c188bff8000855b80008000800087cf8000898b800087d083e87c1880008993800088067c188b798000783080008913800087e47c7b8c1b87d07830800089bd8000844880008b2585a27c1880008996898a83e8800087c4800080008cab8cab800080007cdf84af83e883e8800083e880008b2180007eb87c188781800087cf80008867850c8173800083997ddb89937ff78817800083e880007fb180008913800088627cc4879178307c3c8000887d800088068000883378307c8b783085ae800087e47b85873d8a1d80737a6388c37c7884487ff483dc8843845b7de787d38ba383e8800080c7800088c07fff87cf800087d080007ad080008ad3800089937830873984767d8b800086eb800089137e698639769f82f37b3383038000887d7fa9854b80008494765982e67dde85ae74da88628000844b800082e68000861b8000880680008355760283cb800085b7897e87e474547ff4800087b3800088808000844878307cdf80008b9b80008993800087c783e8783080008bb8797389137fcb879b80007cc4800087d074f5887d8000850b800082f3810d84c7800085ae78308639800084947dd284c78000861b8000854b7448851481ba84c7800085b78000886276028261800084c7895f8880786688067c0c7c0c800088af800087d0801487e4783078f78d5e8c9780008913800083e87c187c1880008ba98000887d7dfb85cb78307f39800087c1800085ae8000879b7cb482f3794e85067830861b8000850b7c188494800085067c1885b7800086398000844b79ea85067cc8888082c4854b8000826176768515800087ca85a2886278307c18800088fd80008827800088067830783080008ce580008a78800083e878aa7c9280008a517c1887d0800083e880008321800086698000861b800085cb7c1886db744882817c1885b77c18879b7c18856f80008281800088807d3b85f58000844b766782817ffa87ca7c1886397d5282f47c9d844a800088277c18854b800080007fdd87d0800082e380008a8f7c187c1880008bb87c188bb8800083e87830807a8000852878308910800083e878308709760281407830899c75a5815d7c188ac37c757f867c188880783085cb783088bb79ea7e3c783087ca7830879b783087d07dd27e0d7c6f8827783085a2783086dc7993809d7b1382e3783089f2783083e87aef8485800083e87c1888ed783080008000886d80008cf88000800080008462800083e880008d84800087be8000915a800083e880008000800080008000800080008000800087ca8000815d80008ca37c187f7880008827800085d380008bb885a27b90800082e380008b8380008ac485a27c18800083e88000898a800087d087d080008000800080008d72800083e8800083e8) (.leaf 5336 0x8000800080008eac8000827d800083ae891f83e880008b48800085e280007fc68000855f80008bb8800087e383c17bde800087c88000888f80008c51848178307c1887d08000895980008b4883af7867800089548000857d800089b785377c4f80008928800083e88000879087c7803780008bb880008000800083e88000841f800083e880008bb880007e957ed286a28000855f85378ac4800081fa800082ba800087c880008760800086de78307ed2800087d0853789b48000886978307aea800088d78000888f7830876085377c12891985b580008959800085cf744e7ffa800087d08000857d853783a8800083e280008926892683e8800080007ffa87ca7d8f855f800089b585c37aad80008b16800087c8800087d07d677e128000872e7c1887d07e0a8982800080327b768346800088d779d1858980fe84817ac881f6816885b5800089b47e978378759881f67ff987c978ef888f7cb081e7800082988000853e7da1895981167fc07eb08680800088da8000857d891f7c187c188a6887c887c8800087d0800078307d708d10800087d07dfd89b57f6a7a2a80008928754f88d78048868e800080328000854082a785b5800089828000809972f08506783087c9800085898000827f7ad185067694839b7a1489b484ef813a8000864e800088da8000888f7d677bd880008797800087d080008959853178307e7e8b7f800087d08000891f83e8783080008bb8800088d78000873c80007cf47ac987d0744885b5800089b5814f80328000853b800087c98000868e800081467597853b8000839b7c1889827830827f8000853b814f88da783085897c18813a8000853b80008432800089b483e57c18798389238000870e8000888f8537783080008d0b80008b3c800083e87c187c188000899c800088458791891f79d77dbf7c0085b47c1887c97f6c873c7c1884077dfc81cc7d67839b800089b57c1880997c1881cc800088da814f868e800082f0744881cc7c6284327c1889827c18833b7c1883e88000870e800085f97c188000800087d0800083537c1889b487d07c1880008bb880008c2d7c187c187830800080008c9278308bb1800083e872a17c957b2688aa6e1b7f077d67891f7c1887ef7e5d84c27c1888da7830873c783083e8797f80da78308432783089b5783086d87d6780187b56870e7830868e783087237a4180187b83835378308a76783083e87a148326800083e87c1889e1783080008000870e80008f9980008000800083e880007c188000800098bf7c188000800098bf7c1880008000800080008000800080008000800084328000891f800087d07c187fb68000870e8000873c80008ac085377bce8000835380008bb880008b0b80007ac1800083e880008a76800087d086797ea98000800080008e5e800083e880008291))
def tree_w_6 : Tree := (.node 2 (.node 55 (.node 63 (.node 39 (.node 1 (.leaf 5218 0x8000800084568fa080008bc780008445800083e8800088967c1887878000805d7c18812380008b2d7c188b9e8bfb7c75800087fe8000881f80008bb88445788d800087d0800089387c188b2a874278307c188a4b7e378607840f87f780007c187c188ac2800083e8800085b8800080008c4a8c4a8000800080008430804883e8800083e87c9c8bb888aa87df7c188fe78c92812380008bb87c18839f7c1883e87c4687fe800084ae849487b67c188000800087d07e8f8745800088f57e637c59800088a88000881f8000874278307c59800086da7d8089387f72840f80008041800088628000860788aa81d07c1884298bb887d0800083e8800080487c188862800081238000868488aa83f77c1888c4800087fe7cf287d080007fb7800084dc783087d0800087d07fe683ce783080f4790888a87cd884a87f41871180008000800085468000865f7d34850477977f677ca386ce787f881f8000831b8000825a800087008000893880da7de87c188642800087d088aa860780007c607c188a2a800087fe800087d08494800f80008bb8800087d0800086847a9e7e3e800087d0800088a8800085467ad6828c744883e8800085467e0285337b0886017c1883e880da86ce744884a880008504800083e87f3087007448865f8000831b800083e8800087d08000882580da7c9d7c1887d0800086fa80008938881878787c188bb8800087d0800083e888aa7e957c188a15800088a88000870678307e867f43862d7e3e85467eb486847830828c8000832b800086ce80008546775385247830832b7c1887007c188533783085048000832b800087d0800084a87830831b7c1884ce800086988000865f84c27eb5783088b6800084588000881f7b4d7b4d80008c9e87a38a158000800080007e957d1f8bb87c18863c800083e88000826e800087d07c1886ce7f368706800082a679d483e87c1887007b3e8684800085247dcc81ba7c1887d07bae8546800085927d5c81ba7ec886987c188533800086dc744881ba80008458800087cb7c18829d800085a2800087d0800086ea79007c1d8000898a7c188a24800080007830826e800087d078308a24783080007c188656790a83e87c188ae8783083e8766484c27ad68000783087d0783087067830890c7cf27c8078308698790a87d07830897a7c187c8078a08458789a854678308ac47c188000800087d07830853378308685752280da800083e87c188bb378308005800084c280008e0c8000800080008656800080008000800080008000800080008000800080008bb880008000800088aa7c1880008000876e800083e880008cf47c187c18800084588000870680008d6278307ba1800087d080008bb880008eac77b97f8980008b348000892e8000907a800083e8800080008000891b800083ed80008759) (.leaf 5500 0x8000800080008bb880008b3d80008a3f800083e88000880b80008755898982337c18827c80008a0080008ab589007e4b7e948664800087d080008ce587487a637c1887d08000884c80008d30856078307c1888537ffe855980008bb880007c1880008946800083e88000884e884e800080008bba8000800089c285da800083e8800089c47c188fa0800087557c18920f7e94827c800087d08000836d800087c3800086648000865f783086cd7e0581ed800087d0800086a887c988fd76437e077c1887d880008655800089487e077e078000855e8000884c800087d074488002800087d27d8b855988518466800083ea800087d0800083e8800081f2800087d28000827c800087d07b9d836d800087c38000866485dc8bb880007f85783083db7c1887d0759f87337e0482e586817ff37c2087d87448865f85d485f780007e847d8e855e744886a8800087d084667e917fc9879976b586557d45851582798279783086518000884c85dc807e80008661800087d08000855989c47e0a7c188a497c188664800087d078307f8580008bb8800087d0800087d07a9f7e0c800087d0800087d881f487d0800081ec744883e87b9d84e3800087337e8785f77c18836e77ee87587c18865f77fb83b38000836e7e818651800086a87c1885157ba3836e800085c3800086557c18820d7c138756800087d07c94884c85607a2280008b3e800087d0800083e87a9f7e0c80008bb8800087d88000874d7c187e877f0d87d0783084e3800087d07c1881ec800086dd80008758848c83e87c1885f775988445800086517e0c8733783083b3800084457a0b85c38000865f7c18851574488445800087d0800086a8744878ae8000882d80008ae2800086558445783080008c1580008b3d800080007c187e8780008bb880008755800083e87c18826f7d8987d07c1887587f7d874d7c1882ef7e8f83e8800086517c1887d07c1885f779948164800085c37f7083e8800083b376cc8164800087d0809087337c1885157994816480008ae280008a0b7b427b428000854c800087d07ed888607c187c18800089347c188b3d800080007830826f800087d078308b3d783080007c1886577a2483e87c188a39783083e8783086d77a248000783085c37830874d783088b37e0c7fb9783087d0783087d0783086237dc57fb97f2a8ae274487dfc783088fd7afa83a1800087d078308b1b751e7b08794e87897c187c187e8f8df37830800080008b7180008f2580008000800086578000800080008000800080008000800080008000800089ab8000800080008abf7c188111800087d0800083e880008c9b85dc7d2980008ae28000874d80008a0b834d7941800087d080008bb880008ce581f4800080007c189e5c7dfc80007ef09b687830800080008dac8f0380008a6180007c18)) (.leaf 5372 0x800080008d2c8bb8800083e8800083e8800083e88000896487b0881d80007f93800085028000893180008b1e855c7bab800083e880008c4580008c9884cf78308000894480008a91800088f78127783080008944800087d0800087d083e87c187c188bb8800083e88000855c800080008d058d05800080008000840e802683e88000855c80008fa080008000800094fc80008502800087d080008435783083f5800083e8783086c3800087368000800d79a48944800086e37d9288b080007c25800088d080008c457d3f850f80007ad7800087d080008a91783083e8855c7eb3855c891d800087d0800081748000829b80008a6b800083e886a98026800086837d3285028000882387d67c1880008bbe74487f6680008bb880008207800087d6800089447448847b8174834e800083ee800088d0800086c380008562744280067dd285a2744886e38000850f80008006759585357f198c457f93837b80008006795788f784358a9180007d8c800083e87e59891d800087d0840e7c3e800087d080007f669ccc8000800078309596800089448944800088238000820774488000754888d0800087d08000834e7c188000817485a28000847b744885628000800080008535857586c37a57842f75ef7dbf800088f7817486e38000837b744881a7800087637d8c8c4580007bc58000858f8000889d80008a91783078568000897780008944800083e87c187c1880008bb8800088d0855c80008000820778308a247c1885a27d8c88238000834e7c1883e88000853579a48709800085627c18835b800088f77cab847b7910842f8000835b80008763800086c37830837b7d8c835b855c889d800086e378307e39800087438000855c80008c457830783080008b2b80008b45800080007c188000800089b77c1885a2800083e8817485a2800085cf7c1885357c1880007c1883e87dff85cf800088f77ee088238000856274c87e7f7bde87637dc58709800086f07c187e7f8174889d8000847b80008763744880808000855c7c1889178000822180008468800087298000896a7c187c18800088507c18898a80008000783083e880008789783087d0783080007c18898a79a483a17c188a44783083e8777687167a5e7fb979a48763783083e87830886a7c187c1878fd889d7830882378308ad87964796479a4855c7830870978308b4b7c187d4c7f59872978308863776985427729802d800083e87c188cff783080008000841580008d2c80008000800087d08000800080008000800080008000800080008000800089fe8000800080008afe7c188000800088aa800083e880008c527c187c188000855c800087d080008ec0783079108000872980008bb880008f33821a7cf8800083e8800087098000892a894480e0800080008c4b8c4b800083e880e084c8)) (.node 1 (.leaf 5000 0x80008000938880008000800093888000800083e87c188bb8800087d080007c18800087d0800087d083e88bb8800078308000838380008bb080008c2583e87830800088547d608918800089ec821c7830800088a0800087d08000870083187c1880008bb87f54833c800084948494800080008b8480008000800083e8800083e88000889c87d08aec8000800080008bb8800087d080008000800083e88000844d78308383800087d0800087d074ad8065800088548000867b8000883d7c187c7d800085cf80008bb0800086047ba07c05800087d0875889188000831874c07f888000879c800087d07cc480ac80008370884888f48000833c800080007f888758800087d08000869f87d078307c188ce97f9b838380008704744880008000890178b4885480008000744883e8800085197dff85cf800087d0789d8455744881957d0786617eab867b7c7e844e7c1881957cfa84ca7c108bb07d9181797dad8195849488f48000891877847cc48000844c8000876c800087d087d07c187c188834800083e8800087d0800078307c188bb8800088547e0e85de7c187d877c1887d0744885cf83e88704800082ce7c1883e87d60866178308000800084557eb882a0783084ca883687d073e2844e800082a07d3c88f47c18867b7edc81797c1882a083e8860980008bb080007b4778308688800087d08000891882a0783080008a708000885488e683e87b027b0280008c4b800085cf800087d07d877d877830886378728661800085de7ee682ce7cf0847b800084ca7c1887047830845580008366800088f47b1082e08000844e7938836680008609800087d0783082497c188366800087d07830867b80007e82800086bb8000850580008bb0800078307d9e8aa3800088e6800080007c187eea80008bb880008661800083e87c18816f800087d07c1884fe800087d07c1882d27c1883e87c1888f47c1885de8000845578918061806186097c1887048000861a77cf8061800087d07a768526800086317891806180008505800087d07c18826a800084498000853d80008a637bb77bb7800088317c188a4980008000783082d28000866d783088e6783082c67c188557783082857c188bb8783083e876c5854b799b7e9d7830866d783087d0783087d07c187d7b783087d07830870f78968a027aa77aa7794d8505783087d078308a197afb7c797d6d853d76ba87987830865278518061800083e87c188bb878307f9f8000844980008cce80008000800086ba800080008000800080008000800080008000800080008a5580008000800089337c188000800087d0800083e880008bb87c187c1880008505800087d080008dea783078c98000853d80008af780008e0178307cb183e883e880008bb880008f0783e880998000800080008b808000838788088481) (.leaf 5545 0x8000800095a980008000800095a98000800083e880008e0f7c18879a879a7c18800087d089f1873d7c188e6b800078307de283e8800087d080008e9588267b5c800087d0800087ca80008ddf86097830800087d08000860980008bb886097c1880008a19800083e8800087a7800080008c038c0380008000800085bd81d583e8800083e87c188fa086098f157c188a7c800087d07c18800089f183b280008694800081ca7edf86af80008a837f5982ac800087d08c38846878308aad75847ec478308554800087bd800089f77ea17ea1800086317c1287ca800087d07c187fdd8000881b80008609800083bf783083c57c54883e800083e8800081d5800087ad800087d0800087d08000783080008dd9783081ca80008bb886097fca8000885c860987d070607f6d8000869b800087d07c188554800086af7c18870676e7829f77f684c186438468800087d07830829f800086527c0587bd7a6384fb8000829f8000880c800087ca86097fd7783085fb800087d07e39860987d07ded800089e3800081ca800087d08609805680008bb8825d87d07bdc869680007f73800087d080008554800087d081d0844c74998439794384c17d2684f680008706800084397c188652744886af78b7846f800084398000880c817a846878d784fb7c188439800085c7800087bd7830800078308821800087d0800087ca86097a0580008c098bb887d0800083e878327c1a80008dd67d8485547eed86bd7c187fa9800089ee800084c1800086968221844c74488606783086527c49841980008706800084388000880c800084f67669846f800084387df785c7800086af800084fb74988438860987d0783084fb80008000800088de80008ac47c1887bd8327793e800089e989ee893c800080b37c18800280008bb880008660800083e87c18839179f787d080008652800086bd7c18844c7a5183e87c18880c7f0286967f3687067c1880007c188d217c1884198000846f7c188000800087d0800088de7e3984fb783080007f0c8ac4800087d0775c7f2c800083e8800087d0800088e37c187d26800087d07c188a4880008000783083ea80008777783089ee78e380b37c188779799e838f7c188b87783083e8783085807a5180ba783085c7783086bd783088127e398113783087d07830869679f786307c71811380008ac474177c18783088e37a8284fb800087d078308cc6713478307c4788e37c187c187c188bb87830810e80008ccb80008dd680008000800087d28000800080008000800080008000800080008000800089af800080b3800089687c1881df800087d0800083e880008bfa7df77df780008ac4800086bd80008a1874487a0f800087d080008a7e80008ccb7c1888de80007c189d747c1880007c189d797c1d80008000800090ae800084f684fb8005))) (.node 27 (.node 32 (.node 15 (.leaf 5319 0x80008000800090df8000800083e883e880007c1880008d1980008b96890f80008000874680008ad48000869582ad7c18890f8bb8800087d07c18890f80007830800088808000892f80008ae78317783080008bb87c5b842b800088cc84e47c1880008a10800083e87eff86cf8000800080008d6c8000800080008373875b83e880007c189aab7c1880007c189c977e037f76874683e88bb8800087ae81c97a1b80008bb880008931800083e87d577bf680008880800086ec7c188527813f8033800087d0800087d0783086ff85277c618000866b7d77892f783084e480008049800089848000842b800082e7783084318000893b800083e880007f8b8000881980008746800087d0783078307de18d8180008bb880007bb0744883c68000899980008880800087d0728d7ec582f985b1800086e27fd786cb7e0b81f377a585267974866b7a67861f81ab8317800085268000864c783087d0800081847c188526800085538000892f78307eff783087457c1889cc8000842b78307ba380008b2d80008bb8800087d078be78be8000888078e08880800087d087ae7fde7cc88498744886e2814680007ff97ff9800084988000866b796f87d0800081f37c1884987c18864c890f86cb8000831770608498785d85538000861f7d2a8184800087d0800085e4800087d078307b5b80008bb8800087d08000892f7830800080008fa080008880800083e878307ca680008bb8800086e27e668636802d7fde7ec387d0796f866b800087d07c187ff9800086937c18864c8bba83807c1881f3719d8907800085537ad987d0783083177c188693800085e4783086cb7c8a81847ec386938000857f7c18861f7c5c7c5c80008a7b80008664800087d07830783080008e63800086e2800080a38000808e80008cb380008814800083e885278000783088cb7c18864c800086367c1883617c1884e37d5785537c1887d07c18849c800083077e1485e47f438768800083e8783083077daf857f800087d07c1884717bc08307800086648000882c7c188044800085f4800087d07c1887037ad97c187f7789dc7c188bfc8000800078308d0b80008ba37830888078d380a37c1883e878cc87bb7c1887d0780583bd764d85667b7c83d3783085e478308673783088847d577feb7830857f783087d0783087d07d577fa87aac8664732e864e783088597d2a7fbc800087d0783087d075878182783083a4800083e87c188952796f80008000878c80008c68800080008000885e8000800080008000800080008000800080008000800087d0800080a38000894e7c1883068000857f800083bd80008c6c7c187f1e800086648000863680008bb87c757c75800087d080008bb880008c4176f17d57800083e8890f8a368000856a8000813f8000800080008bb8800083e8890f8527) (.leaf 6000 0x80008000800090e180008000868f83e88bb87c1880008fa0800087d0800083e8800087d080008b05849b888380007c1880008bb87c1887d080008bb883e87830800085dc80008bb880008b2085dc7abc800089ae7efb86cb8000885286f77ea480008957800083e8800087a58a31828c8b0a8b0a80008000800085f28000867480007c189c997e0c80007c189d4c7ebf800087d080008cf9800083e880007ebf80008bb8800089a99069849b6f977d74800085dc80008b05800087d07c187ebf800089a9800087d08707873878f97ebf7830856f80008bb88c3a846a7a0e81de87fb8722800086cb7fd583bd800085c6800087d0800083e88bb8820a800089ae800087d0800087d087d0783080008fa080008bb885dc7e0c7a2481f480008bb8763c85dc80008911800080b3800087d0800089a983bd85c1800083f3747384137c188187777d8b05800085498000841383e88722800087d08000808274488413800087d080008bb878307fd58000841380008a88800086cb861d7e22800087fb80008bb887d087d08000783080008bb8800085dc800087d0763c81f4800087d07df189a978308000820f80a3800087d0800080007d598911800083f370608a6c7c18872287d085c1783085497c188544783087d080008b0580007f58800085448a5c8a88800087d078307bed7d74892c800087d080008bb883e8800080008d14800087d080008bb8800078307c188bb8783089a987d08403800081f4800087d073d08000800087d0846080a3800087d07c188722800083e87c1883f3744887d0800087d07c188911800085497c1887d080008a88783085c17c187f58800087d07ff587c580008b05800b78ee80008bb8800087d07c1887d087d0783080008fa080008bb3800083f887c5783080008f957a2f7a2f80008bb87e0c85dc80008bad7c1887d087d08403800083d8744887c5800087d07c1887d07c1883f37ff583dd7ed08a887772832a7c1885e1800083dd800087c57c1889117c1882bd7c1883dd800087d0800085c17c187cd6783083e8800087d080008bb883e87c18800087d09b587c188000800080007c189b58800078308bb87c2883f87c1889c478207dfc7c188bb880008bb8783087c07448784078308a8878308403783087db7c18810a783087c5783087d0783089c97e117e117c1887d078308712783086a57c1881e9800087d078308911783080be783085d1800083e87c1887d0783081ff800089b980008fa08000800087d08000800080008000800080008000800080008000800080008bb8800083f880008ba87c187c18800087c580008bb880008bc378307830800087d0800085d780008db17c187c18800087d080008bb880008a8d74488000800083e880008afa800084a6800083e88000800080008bb8800083e8800087d0)) (.leaf 5701 0x800080008000938880007ed582bd83e87c187c1880008fa08a8d8a8d80008000800087d0800089538521890980007c187f4f8b078756875680008bb8800078308000865a800083e88000911686a57aed7f0588b07c18838b80008b368a0a7ed57c18838b800083e880008c15800082bd80008bb880008000800083e88a8d86a580007c189f40800080007aed9a2d7c18800087d087d08fa07ed586a58000783080008b0778308bb8800085217f867a648000865a80008953800087d07c187ec7800086d5800087568dec8d2e70e87aed8000809e783080008000874e800080008b5b87d08000838b8000882d783082bd80008bb8800083e880008000800086a5800087d080008bb882bd783080008a8d80008b0786a58000800082bd783088818000865a844b8c28744881397e728289800086d5800088de744884388000825a7cb6809e80008953800089f97477825a82eb87d080008756744883667fd183b980008a2a8000800074488445800087d680008b197fa3838b80007c187c188b8980008b07800087d0836e783080008b3e8000865a800088c47f4f7fd07f868756783086d57c1880007c1880f080008756783080fb80008c288000843870da7f86822987d0793e88de800089f97b9e7b9e8000954475cb89537c187f7e7b96783080008731783087568000815c80007c18800080009e15800080007830964580007c1887d08000859080007aed80008df8800086d5800087d078307fd0800087d0800084e3800088c4800080f0744887ad7c1887d076d7828f87fd84387c1887ad7a8a8a2a7c888c2881a289f97e5187ad7a5c86b6800088de7f047f047da587ad7c188000800089537d74815c80008b95800086c8800087d086a5783080008f7d7c1889dd800082bd89ab7ed580008ad67c1888cb80008590800080fb783086ee7c1887d07de587d07d08839e8000830680008a2a7d0c88c480008438787a7f1e800086b6800086777c1889f97aed7f1e7c1880007c188c287c187f8780008000800088238a8d88de7c18815c783083e8800086a580008bb87c187c18800087d07c188cb380008000783082bd800086d578308bb87aed82bd7c1884e3783082ed7c188a2a79d885907830878679457f0578d286b67a4b87d0783088207c187f9f783083e8783088c4783089f97ed57f9f7b1086c878308a5f7830836f7bf581af7ed586a578308c28712a7de17a488597800083e8800088de783080007ed5897f80008fa080008000800086a5800080008000800080008000800080008000800080008755800082bd80008b6e7c1880c5800087d08000859080008c087cdd7cdd800086c8800087d080008c6c7a7d7b41800086a5800088c48000875775e38000800083e880008e47800081c97e65824d8000800080008c28800083e880008635)) (.leaf 5000 0x80008000800087d080008000800083e888777cbf80008bb880008b117f59800083e88589800087d080008a1780007c1880008bb8800085dc800089c48000783080008fa0800083e8800087d08000783080008bb8800083e8800087d080007c1887d08bb8800083e8800083e88000800080008bb880008000800083e8800083e880007cbf97707c1880007c189ab1800080008589800083e88000872983e8800080008bb8800087d07c18862f800079d179d1897180008823783085dc89c47c18797d89c47e0c85dc800083e880008000800087d0800083e8800083e87c1883e8800087d0800083e880008000800087d087d083e8800083e88000800080008bb87db985898000862f800078307c188fa080008bb87c1878d78000834180008bb880008971744880007830824787d087d0800089c4744883e8800081f4800083e8800087d0744887d080008000800083e87e0c85dc800085dc744883e881f483e880008000800083e87c187c18800083e87d658bb8800083e880007c18800087d080008bb8800087298000783080008877800089718000862f80007f5978d7848f7cbf89c477898000800081a18000848f744887d07c188000800081f483e8848f7c1885dc800083e87c1880007c18848f80008000800087d0800083e8744887d0800087d0783085dc83e87a2480008bb8800087d0800083e88000783080008fa080008971800083e880007a24800087d083e889c48000868380007f59783083e8800087d07a77862f7db981a17c188000783085dc80008000800081f47c18800080007830a328783080007830a328783083e887d07c1883e8800083e874488000800087d0800087d07c188000800083e880008bb8800087d080007c18800083e8800089c4800080007c187e0c80008bb8800087d0800083e8800080007acb87d0800085dc7eb386837c188341797d83e87e0c80008000862f7c1883e87a2480007eb387d07c1883e8797d800080008000800087d07c1880007c1887d07c18800080008bb8800083e883e881f4783081f4800083e880008bb883e87e0c800085dc7c188bb880008000783081f4800085dc783089c4783080007c1883e8783081f47c188000778983417830872978d78000783087d078308683783087d07c187d65783087d0783087d07acb8000797d7b7180008bb86e6c7e0c78308bb87e0c7e0c7c1883e878308000783085dc783089c4800083e87c1887d0783081f4800085dc80008dac80008000800085dc8000800080008000800080008000800080008000800087d08000800080008b117c1880a7800087d08000834180008bb87c187cbf80008bb880008729800083e87cbf7cbf800083e880008bb880008fa074488000800083e8800081f4800089c4800083e880008000800083e8800087d0800087d0))) (.node 57 (.node 36 (.leaf 5507 0x8000800080008e508000834a800083e8800083e880008bb8800085e385e380008000868080008a6680008885849d7c1880008aba800087d07c188ac98000783080008a0a8000865980008b75851f79ab800087d08000858c80008a9485e37d9389cb8c668000891d800088768000834280008b6880008000800084b880008563800083e880008c0c80007f628000862c8000868080008ac4843f81fb800082447f028aba800087d08000849d78307e5c80008a0a80008a247f4386e175f27a74800087d0800087d07830878d85e37e568000887e80008659783086ac85e38000800087808000858c8000848e7c1883e88000888c800083e8800080d07c18883f7eb0868080008bb880007b7a800087d080008aba800088ce85e37e13783083e880008a0a773c8ac47f0780b5800080007e1387d0800087d08000832b78307f8781fb883480008a247c1883a578307f877fb08780783087d0800082c47e62836f8371872d7aa18659800080a680008757800087d08000858c85e37ce880008b3f80008aba800086d783f2783080008bc27e528a0a800087d087907bce783087da7dab87d0789788ce80007f8e800085568000883480008ac47505832b7d8685567c1887807060800d80008189800085568972872d769c8a2480007edc7635855680008670800087d080007e0e7e1389348000890d8000865985e3790080008d1c7c188a0a800083e880007a2b80008d667f6987d07ea9867980007dbc8000897e80008834800083e87c187f8e744885967ae88780800088ce7f43832b7c1882097830872d80008ac47da1818980008209800086708000800d7c187edc76518209796d890d80008a2482527e0e8000844380008bb8800087d081fb79cf8000882b80008bb88000800d85e37e1380008bab7c188834800083e87c1881a4800087c37d4887d0800086797c1882c17ca884788000872d800083e8828b841a73b884787c188670800088ce7c1881cc7c0b84788000890d80008ac479447d2c7cb5848580008bb87c25800d7c1881518000886d8000800080008b767c187db780008c557c188b6e80008000783081fb8000881a78308bb8783d800d7c18858c7a1d84327c188a59783083e8783086a97a2b80987830867078308679782f88017e1480988000890d74488000783085b47a2b809880008c6678c788ce73347c187aa8843778307c1878308c13783085397e13881f800083e87c1883f57830819f80008c0780008fa080008000800085e3800080008000800080008000800080008000800080008a588000800d80008a918000808c8000890d800083e880008be978307ca480008bb8800087728000899c78bc78bc80007c189d53800080008000996b7830800083e880008c628000892185397c188000800080008ffb8000858780008000) (.leaf 5200 0x80008000800083e8800084658c80873a800083e8800085dc8000873a889883528000804b7c1887d088988ccb80007f6a7d76892e87d08bb8800083e87f6a7b82800089608000870880008bb883e878307d5d87d07ce084b07c188bb880007c18800083e8800087d080009450889880008c808c8080008000800083e8800083e8800083e8800087d08000807d7c18881b7c18804b7c1880008c8083e8800084338000892e800081f4800088e37830804b80008960800087d07c1880007c637c638000852d80008bb87d5d87d077687b9b7c1880007f38870880008d488000800080008898800084b0800083e87c18832080008960800083e8800080007c1887087c63804b80008bb8884d7c9580008bb88000892e800083e873b27f6a892e87d079c08960783080c8800086407c1883e88000852d80007e0c783080007448800078308000800087d08000852d7c188000744884b080008bb8889883e878308000800089608000870878308000800083e87d768bb8800084b083e87c18800087d08000892e800087d083527f6a800083e880008960800087d07c188000783080007c18852d744883e88000864084b0800080007830a3f0783080007830a3f07830800084b084b07aec7448852d7c18800080008960800087d07b50832074488000800087d084b08bb878307ce0800083e880008d487c18870880007830800087d0800089607c18800088987ce080008e107c18852d800084fb8000800080008a287c187fb57ad3868b7e258640800087d0800084b0800083e87c1880006ed082587ce089607c18836b8000852d7c188258800087d080007ce0751080008000825880008d487c1887d07ce07ce07a88825880008a287c188bb87e707830800086407c188915800080007c1880c880008a737c188000800080007c1883e88000868b7ce084b07d2b84fb7e7086407c9584657ce089608000868b7c1880007c1884657ea287d0800083e88000852d766e836b80008d487c1880008000800078f884b080008a28800080c87c1880c8800088987c1880007c188bb880007c1880008c807c1883e880008000783087d080008898783087d0783080007c1887d078f884b07c188bb877687f3877b388987a3d80c8783087d0783084fb783083e87ce081db7da88d4871a57c18783089157df381db7e708a28783087d070607e707e7083e87c188000783083e8783084b078f887d0800083e87c1884b07830800080008bb880008bb880008000800088988000800080008000800080008000800080008000800087d08000800080008c807c18800080008d4880008320800087d07c187c1880008a28800084fb80008cfd78307830800080009c207c188000800098387830800083e880008bb88000889884b07c1880008000800087d0800083e88c808000)) (.leaf 5821 0x8000800080008e67800083e88856846e800083e880008bb880008697871d8086800087ca800087a580008ab0871d7c9e80008a487c18877480008c4b850178b67c18898a8b058bb88000894b800078307c188b57800087d080008b6683967830800081b89e8d7c1880007c1898ed7c188000911a80008000800083e885a38000800083e880008d27800080007c1885ae800087ca80008a7f800082af847481c680008a48800087d0783086c8871d7dde7dd2898a800086f280008863817b7dde7c1889e680008774783085638000800080007f9f80008bb87bc6877e838783e880008d32871d87d0800078308000898b80008ea380007c18800080007c188c027ffa87ca7c188a84846f7c188000885780008a488000893f7f4d7ec78000846f8000898a800089cc833582e0744880877e2e89e6800083e87448859180007c9f83358000744886f28000817b80007c90783a8bc27fa48774800083967f9f7ff180008ea380008bb87c62788a800083d97de78b14800087d080007c187c1887c17e908a48800087d084a578ed80008bb88000898a8000869c7c187ec7783087d0863889e6752d8833800080bc7c1883e8800081ce777d89cc800085918000817a80008bc2845f83e87974811779aa817a80008ea3800086f274487fae8000817a8000899f80008774871d7c72783085628000898b80008bb8817a78308000894a8000898a800083e8871d805c800088ef800089e6800087d07830800080008507783085b6800083e8800080bc794f811f80008bc28000883380008591777d7d3780008ea37ec789cc7fd3811778e37d378000899f74a27fa67c187f7e78308000871d898b8000871d7830805a800085bb80008b057c1887d083e87c18800087d08b058a47800082827c1880bd800089378000899e800083e8800083e878e3854f80008bc2800087d07c1881c57b6581677f038ea3795281227dc18591800081678000899f800088337c1883847b6581678000898b800089cc7f7e7f7e766283e880008b057f4d7fa680008442800087d07c1880007f228b058bb8800080008bb87c188d8680008000783084a58000849178308bc27ab282827c1887d078e380a97c188ea3783083e8783085ad7b657e867830899f783087d0783088e678977c6879eb898b75da80007830876c7fe87fe87f4d8b057b96883370e27ff77c18838e7c187c1878308b057830882a78308776833583e87c18838e783083e880008b5e80008e30800080008000888d800080008000800080008000800080008000800080008a438000828280008995871d80648000898b800083e880008cce871d7c7c80008b05800087d080008b5483e8789480007c189e8d8000800080009aa57830800083e880008aab80008c12882a7c188000800080008eed800087d087d08000)))
def tree_w_7 : Tree := (.node 15 (.node 23 (.node 5 (.leaf 5304 0x800080008ce78bb8800083e8800083d38c7383e87c8c895f8000878580007feb7d9285628000888f80008ac386c67c037cad8865800087d680008c4c800078307c1887d07d1888d084188be88000783080008916800084ac80008ade85177c18800088ff800083e8800087d087d080008c708c708000800080008460807883e8800083e8800088ff87d08000800087d080008562800087d08000839d800083e8800088658000857788ff86db74488000800087ac7830888f847c886480007c187d5e8916800087d6800088007fe97bcc80008533800088da783086f680007fb480008888800084ac800083e87c18839c800088d4800083e8800080787c188784892f85627fd087d080007c187c188b6d800088657d47851780007fb5800087857bf487ac7eab867b7b2382f37fb5839d800089168000845c8000847c749382c97448853388bc888f7874842c800082c97d4186c0783687d68000830e8000831488ff84ec800088d074488000800086fc80008898800084ac85177c9080008ae48ce788658000854078307b1680008bfc800087ac800087a085177d5778308814800089167b57845677fb82be7cd9848d7d6385337c18867b7c18847c7fe4848d800087a27577845c8000842c8000848d800084ec7e91888f7ace829e7c18848d80008898800087d67c187c187830883280008726800088d084c178a880008c1a800087ac800082557efe7efe80008bb8783089168517854080007da2800087d080008533800087a0800082be744885257d4786c0800084567830847c800085257c1884ec7c18867b7c18842c800085257ce088987da2845c8000829e7af68525800087268000888f78a27bf47a90890d800087bc800087d68517783080008cf580008bb8800087d07c1882e680008cd4800087ec812f82557c18818a800088ec800086c0851785407c1883b3744885047c1884ec7c1887b28000847c7d47839e800088987c1884567c18842c7ae9839e7f5687267c18867b7c1883787df1839e800087bc800086b57f6a7fdc7ddd866a800082e47e468bb8861b7bca80008a527c188bd480008f847c1886ce7d4791d17c1889f0800087d06ed67c187ae986df783087d0795f82557830879b7c1882f77830889878308540783087d07d477f0f78308726783087a0783087e47d477e0c7c0487bc77bf869d7830876079e57efd7b1482e478308a63783083c47a6383ad8000839b7d478a9d78307fb2800086cd8000800080008000800080008000800080008bb8800083e8800080008000851780008bb8800087d0800093887830812f800087d07ed183e880008bb87c187d47800087bc800087d080008bcc795f795f800082e480008b8880008b4878307b037fb3839b80008a85800087ac7b037eeb8000800080008e4b8000839a800082d3) (.leaf 5500 0x8000800080008dac87d083e8800083e8800083e88000897280008822882280008000858a7c1887d080008c0a80007c18800087bd7c1889d780008bb8800078308000885480008a9780008a618000783080008a3c80008685800088a384bb7c1880008b3a800083e88000865a865a800080008dac80008000800083e887d083e8800083e8800089c480008000800087d08000858a800087d08000843a85dc83e87c0587bd8000859d8207882280008000800088548dac872b783087d078307e2d80008a3c800089d78000867978307af07830875280008a9784bb84bb7ed87ed8800089c489c48685800082727c1882c080008aec800083e8800080007c1886a87dba858a8000886187917c1880008b79800087bd783085dc7448805280008791800088547d768546847e843a744883a976b48a3c7dcd859d800085e37fc17fc1800087527f5b872b7761831978307f6f7e0c89c47e1f89d77a6382337fae7fae8000891c80008a9778307e8a77d9833f80008bb88000868578307c1880008727800087bd85dc89d78000783080008bb87c9c8854783088ee7c6a7c6a800087d080008a3c800081f481f48052744883e87b9a87527c1885467e1385e380008302800089c47c18859d80008319783083028000891c8000872b783082337e0c830285dc87d0800089d778307c37800086ea800087e37edf8a977830783080008ad27c188854800086317c187c1880008ae080008a3c800089d77a207a72800086f8800087527f8a83727c18805274488402783089c47a0481d4800085e3840884027d64891c783085467c188319849084027d998569763c859d80008233826784da800087e37830872b7dac7dac883088c2800086b585dc89d78000784680008caa80008bb8800080007c18800080008d5c800087d0800086317c187e0880008974800089c4800089d7781b7c567448858c7c18891c800083727c1885e37e0c830b7aa98c2d800081d47b9384708000830b7cf587e3800085467c1885487d2f830b800086b5800087e37c188194783085508000850380008b137c187c2e800089387c188bb880008fa07c1883e87e0c957c7c188bb878307c18783081f07a248bbc783089e87a798631745d7d8f7f9787d474357dee7a3789d7783089cb800083ec7b4e87e37830837278b588587a6881cf7afd86b5783083c8783089307b3f81cf7d3385037830892e7830857c790981cf800083e87e0c8bcb78308016800085b38000800080008000800080008000800080008dd0800083e8800087ac7c187c1880007dee9d4c7c18800080009b767830800087e38000863180008db379b679b6800086b5800089d780008c40772a78b080008503800086c980008d1878307c98800083e8800087b080008964800080808000800080008d16800083fe7c188468)) (.node 18 (.node 60 (.leaf 5621 0x8000800080008e0b800083e880008402800083e880008bb88655863b8000801a800085cb80008ae97c18890f80007c327d79893180008afa80008f2781c98000800087d088f589c47d608c318000783080008bb8800086807c1887a580007c18800089aa800083e87f548724800080008e258d7080008000800083e8800083e8800083e880008a70800080008000879c7dfb85cb80008a2386078253800083b480008931783087d084f3852780007fcc800087d08000870186558b3f78307be4800087d07b5a8afa800088497ae27ae27df289aa800089c4800083bd757e7eca80008988800086808000833c7eca82b280008b738f5b83e87ae280008000869a800085cb800089aa8a3d7c187c188a68800089318000868880007fbb7c188680783087d0800088a8825382e57c328298744883e87c18872c865587578000801a800089aa7f3187018000853076c6801a800088fe80008afa78c38093799a816a8000878b899089c474f47f548000855280008a237eb0868085527c188000893a8000893180008a2b8298783080008a68800087d0800085c280007fbb7e8586807c188000764585e58e9582e575c38298800089aa752088a8857d836f7c188034795e88fe8527872c78308530800080347fbb878b78308701800080937c4c818480008a2380008afa7b6c7b6c7830856c80008aad7e0c89c48000783080008954800087d080008a8283a3783080008b737c18800080008a2b8a3d815078308a79783089aa7a0a85c2800082e5800083a3800088fe800085e57c18836f783083a37520847b800088a880008530819583a380008a238000872c783080be7e8583e880008aad8000870178307c77865587d08000871280008afa87d078307c188bb8800080009b727c1880007c1899dd7e6b80008bb880008a827c18853878307a837c1888fe80008a2b7c18858e7c187c188000847b800085c27c18836f78ee7cd67e6b8a23800085e57c1885307c1880be80008aad800088a8800084a676b584a6800087127f5c872c7f287f287d93888e800085977c1887d0888e7c1880008c767c188fa080008bb87c1880007e8599dd7c188b2e78307c18783089207a9d858e73c780567eca8a82783089767c5481a678308a237a8b8a2b783083e87c297dbe7b0d8aad783085c27830889f7ba87ce77b5a87127830872c7830888e7b5a7f287dc7859778308a3d7830831078ee8310800083e87c188b1478308000800086f8800080008000800080008000800080008826843e800083e880008d087c1880c680008bb88000800080008d5e7c187cde80008aad80008a82800087d078f678f68000871280008a2b80008c877830783080008597800087d080008c7678307c18800083e880008b14800086f87c1880008000800080008e25800083e8800083e8) (.leaf 5543 0x800080008ee68ee6800082d97ef183e8800083e889ef89d2800087ed800080007f8e83767c188bb880008a6186797c18800080009d7780008000800095a778307c1887d0800087d080008bb886077a4f80008bb87c18823b8000897d87b37e377c1887d0800083e8800087d08000821f80008bb88000800089ef83e880008607800083e880008bb880007ef17c1887168000837686078afe800084058000832e74488000800085ea8000867989ef80007c18864e7c6e87d0800080007c188000783087d080008000800087d07b5e8000800087d0800087d08000859570d2807280008b297e53823b87b383e88000845a8000897d800083e880008000800088427c18837680008a1a88177b0980008d0f800083e8800087d0860780c8783089278000864e821f871674488291800085b1800083e874ba820281ad79f9800085b189ef87d08000843e783083e8744885b180008b29813a8000752d84cd800085b180008595800087d0805680007de188427c188b298000823b88427c1880008c2a800083e880008bb889ef78307c188dd78000864e7a7a863283bd7f38800089ef800083e8752d84cd7c18829180008a61800087d080008716821f7de1744888df7ac18b297ba6811e800083e88000857877be8595800085ce810184cd7da8857880008a45800083e8783080398000874180008a7e89ef87d0800078307c188b297e7e864e80008b298000783080008bff7448800089ef8bb880007f3880008817783087d080008632800082917448851480008b29800084cd7a4f80007c188514800085957e378716783083e88000851480008a457b17811e800084cd7b50857880008a7e7830843e80007e377e0c88b5800086077e3787d080007b3387d08c9d8000800099e57c1880007c18998f7faa80008bb880008b297c18830378307bc27ce08b2980008bb87ea983e87ade7ade7e378595800086327c1883e87c187ec680008a45800084cd800083e8746582ae7e538a7e7c1887167c1887087fe3869680008607800083037c18821f80008a7e800083e88000843e89ef7f1b7c188e667c188fa080008bb87c1880007e37998f7c188f1178307c18783086eb7a4f8392736383037f718b29783087d07bc27faa7aa58a457c188bb8744883e87bc27bc27c8a8a7e78308632783087d079dd7c187a4f8607783084cd78138ad37c3580007c1883e8783087d0783086077a4f83e8800083e87e3786eb78308303800087d080008000800080008000800080008000800086eb800083e880008ad37c18800080008ad38000800080008bb87c187c1880008a7e80008b29800087d0783078308000860780008bb880008bb878307830800083e8800087d080008ebb7b337b33800083e8800088b5800089ef78307f1b8000800080008bb8800086eb80008303)) (.leaf 5500 0x800080008bb88bb8800084f4800084d0800083e880008a0380008791879180008000861b8000885680008af485dc7c1880008856800087d080008d2685567830800087d080008ad980008aa382d378307c188bb88000867d7f5f872f83e87c18800088af800083e8800088e588e580008b448b448000800080008650800083e8800083e8800088b88000810c7c1887d07e4b861b879187d0800083a9800083e8800088567de8861b8024870c80008000800087d0800088568000893e78307c18800087d078308777783086bb8dac7ac5783088af85dc8ad98000834780007ead872f876e7ead867d800084fd80008295800088af800083e888e582688000867d8000861b800085c180007d247c188c7c7c9e8856800084d0816e7fc1800088947c1887d07c1883e87e0c8518800084ac7e0c83e8800085b88000874a783081a47cf788af77a18856800082d3783081a48000876e8000877770607f5f800081a4800084c78af48ad97945811579d484c7800087d08000867d85dc7e80800088af80008856800087d08556793c80008c1a800087d07df185c1801b7fb980008832763c8000800084d080008518800087d0800088af744880009194874a706085838000876e727885b87eeb82d379cb85837cf784c77d2d88e57c188000800087d0800083e8800087777830811580008908800080007f218ad986bb7db380008cf07c1887d080008bb881f47830800089c485dc8000800087d080007ff7783085dc800088af800085c1783085187c1881f47c18876e800084d07830874a7a2481f4783084c781f480007c1882d3800083e8783083e8800085b87c188000800083e8783084418000885680008115783087d0800085dc7fa7877780007c7180008bb8800080009b4f7c1880007c1899647e1580008bb880008bb885dc83df78307a2d7c1887e2800087d0800085dc78307830800084c77c1885c18000874a74488000800083e87c1884d07c1883e87c18800080007830a51c783080007830a51c7830800085dc8000876e7c1883e878308000800087d080008bb87c188059800080007c188fa080008bb87c1880007e0c99647c188bca78307c18783087c77a2485d36e757e1580008bb8783089c47ff781eb783083e8783087d0783089c47e0c800078308000783087d0783087d07e0c80007a2485dc783087d0783080007c1881fd800087d078308000763c85dc783085e57c187c187de88b5678308441800089cd80008000800080008000800080008000800081fd800083e880008baf800083e8800087d08000800080008dac783080008000800080008bb880008dac7c187c18800085dc800087d080008bb87c187c18800087d080008bb880008000744880007c187c1880008bb8800089c4800083e8800080008000800080008829800087d0))) (.node 50 (.leaf 5625 0x800080008e298e29800083e8800083e88e2983e880008bb87c18865980008000800086d6800087537c188bb880007c18800087d0800087d080008e2986597830800086c180008bb87c188b50876878307c1887d07e0c85dc80008c35884d7c1880008fa08000818c800084cd8000800080008b7a80008000800083e880008697800083e880008bb886598000800086597f0686d687538a4180008271800082717c1887d0800087d0827187d080007e89800086068000875380008a417bee7e5f8000873e8000877d800087687c187fd678308bb891be8bb88000884d744883be80008792800085dc7cfd80e5800087a68c9d88df7da4818c8000800080008b8e800086d68000875386597c1880008bb8800087d0800087d078307e89800087d07666860680008823800083e8744883e88a17873e744885dc79bc86597e9e8286800087d074488753800083e8800082867bda87928000877d8697846574488286894786d680008bb875427cfd8000866e7feb89af800085dc866e7c1880008a56800087d0800087a68000783080008e53800086067b48870083417e8980008a6b877d873e79d185b28000814d756c8683800083e8774b88237f6e84e28000850c80008792800085dc744883808000850c841286d680008753768f82c47c18850c8000891d8000877d80007f0678308659800087d080008bb88271783080008a418000871480008bb8832c783080008afc7830873e865987a6800080008000871474488000800087007c18814d7c0383d378308792800085b2783084e27c1883d37c1886d6800088238000838073a183807eb3891d7b9b85dc800082c47c6b843b800087d089ee87d0749b7c6b80008823800089ee8000877d848f788380008c0b80008b268000859d891d78307c188d057c187d3c80008bb8800083e88000891d800087d07fd687a67c18814d79a785357c1886d680008700800084e27aa183417ec8891d7c4285b27f9883e87c1883417d5187d07d5088237c1882c480008341800089ee800085dc800080537b7185dc800084127f838bb8862f7c6b800089c480007d3c99e17c1880007c189ca580007c188c747dcd859d783087d075047c18783089af80008bb87830853576b97b5c7830891d783087a6783086ac7e897e897adf87d07830877d783087d07bda7edc7e3689ee783085b27830862f7883802a7c4284127830899a7830843b7a778412800083e87e8989c478308053800087fa8000800080008000800080008000800080008d977c187c1880008bb88000800080008b268000859d8000891d78307c18800087d080008bb880008a4178307830800089ee800087d080008bb8783078838000841280008b6580008a1778307c6b800083e88000899a800088237c6b80538000800080008d828000843b8000843b) (.leaf 5227 0x8000800080008d5a80008329871183e8800083e880008a7286118611800080008000864a800087d080008a3984cb7c1888b388f3800086c07c188bb8800079007c188a1680007e5e7f708f1089437ce880008bb8800087d07c18801384cb80d080007c18800083e880008fb388b384b8800087ea80008000800083e18c8188a0800083e880008ad585ae7f418000866d7e7a864a800089727e418229866d828584cb88f37830868a8000865180007e9d80008a1684cb87d0800087d078307ab578308a53783086c080008b288358783080007830a0107a7680007c2ba1c57830800087b6800087d084cb88cd80007c187fe68f86800083e8800080fd80fd80008000864a8000889788b37b597c188a32873488f37f1d86ed78307e417e7a864a80e38a167448858a800082698000826280008a53800083ce783083e87c1882627830800088b387d08000874074488262763b87b67ef086c080008000800083e880008b9e78307c18800084e57c1887d0800084d2800087d084cb7c1180008bb8800088f3800087558423783080008bf3886c8a16800084af78307d9c7c5f880b7e9b8a53800086ed74487e818000842f800080008000858a7e70833b7401842f7f9d87b67bfe83ce799084b88000842f80008b9e744887d080007cce8000842f7d0284d2800086c0800080fd787787dc800087d08000800084cb80d780008bc480008a1680008a5580007830800087d080008a53895886d57b737f5b783083e8706080007cdf84af7c1880008000828c7e5687b6783086ed8000833b7ea4828c80008b9e7e41858a7c1884b878167e8a800084d2800083ce7c1880b67448827280008552800087d0782280ef8000865a80008a28800087d08272783080008a4280008a53800085a48473783080008c437a907e7880008a55800083438000885b80008b847f0586d57d9e7d9e744884737c188b9e7c1884af7cfb833b800080e37c1884d2800086ed7c1884b87cfb83f47d8285527f79858a7c18849e7c1880e380008a287c188514800080ef7830843f800084cb80008bb883e87bc180008827800082609c3b7c1880007c1895f37c187c188f6c7dd485a47830872b736f783078308b9e7e9d8a5578308186768e7cf1783087d0783086d5783087237cfb7ea278308552783084af783085487cfb80007e708a2873ff839f764086967cdc800e7cfb84cb783087d0783083da783083f6800083e87c1888fc78307fa9800087de8000800080008000800080008000800080008bb87c187c1880008b138000818880008bb8800085a48000856e78307da08000855280008a5580008b0b79b879b880008a28800087508000893079c279c2800084cb800087d080008a7e769e7d52800083e880008787800087c27d52813a8000800080008bb88000839180008522)))
def tree_w_12 : Tree := (.node 7 (.leaf 5385 0x8000800080008ce38000841088258415800083e8800089237c1887d08000802d800083c780008a2d80008acf85687c457cb7886f80008a5c800089e0823d785d800087d080008aea7c188a1f863778307c188950800087328000886e84867c1880008aea800083e87c188637800080008e378cf180008000800082ea7f0283e8800083e8800088b18000802880008847800083c7800088fb800083e88000845f8000886f7d6b853b800086e778a78077800087d080008a2d8000867d77b97c8f7c1889507abc8a5c8000863780007b25800087027f328aea800084867e677e977d518909800087328000824f84cd827f80008bb8800083e885687f0280008667800083c78000894978087c4080008bb88000886f783084c985688000800087d0800087d076b186517b2f82ff7c1883e8800089508000853b7ead867d74488000830b862976a58a2d800084b27c1880008000890980008a5c744881a3783080007b1087d080008aea824f7e67800083e880008aed8000873282ea7b1a800087d08000886f800087d084c9785880008c717c1887d08000857980007f37783088897d98895080008245773f820e800084a183578629800086517830867d7a4282128000890978e6853b7ce284b280008212800086c881808a2d800081a37448827080008aed80008a5c78307a7f80008541800087c480008aea825b783080008a2b7c1887d090c188f17890789080008bb880008950800087d078f97c18783087d07c08862979c185798000820e800083e87c188909818082458000867d7830833d800086c880008651783084b27c18833d80008aed7f4a853b79d381a37b6d833d7ff487c480008a2d78307bf2857487258000876f80008a5c80007830833d8b0d80008bb8800083d07c187c78800089087c2886f8800088f17c188000800085207c188909843087d07c1882f7796881387c1886c8800085797c1888547a377f577f358aed7c1882458000864b7a7b7f57800087c47c188651800084ec79b082078000876f7a9887d07fda7fda7c3485ef8000836189508bb87c187c18800089d77c188ae0800083e878308060800085e178308bb87c0083d073e77f9f7e1185e170c07f587d3988f1783086df800085e180008000800080008000800080008000783087c4764f839878308a337f797f797bb7876f7830854c783088d47a117f797b9183617830890e783083c27a378000800083e87d988bb878308180800083e880008fa080008000800084487c1890c180008340800083e88000838780008a5980008000800083d080008ac780008671800087d0800088f180008000744882898000876f8000800080008e1b7c187ee4800083618000860780008cbc7ab97ee4800083e880008934800087aa7c5a80428000800080008cf6800083e88000842a) (.leaf 5867 0x800080008af08af080008540842c86bc800083e87c18885f800087d0800082d48000878d7c1887d0800088a2878e7eec80008b48800088648000883b833f7b0480008ca08000866480008bb883e8783080008ad4800085d580008a2a86427c1880008bb8800083e88000874b8000800080008ea9800080008000845a800083e8800083e88b33895580008158800088567fbd878d80008708800083e8878e846e7f908b4880008663800084ba7fec80867d008ca0800087d0827c85dd80007c9e800086f080008864800087d07f7b7ba8800087d07e948664800089ae80e87f0978308ac1800085d580008363800082f180008bb8800083e8874b8072800086d98000878d800087d078307d7080008a1e80008b488000856d800080007830863680008ca07448853e83638153800083ba744886f07aab8663800085dd800083ba79ff85b7783087d07dda85aa87a283ba800086d9800088648000825a74488554783087d080008664874b7f7b8000893c800087687e0585d589467c8a80008d2480008b48800087d07830798880008a4c80008ca0800083e87f7b8000800086647f2086f075cd888f847581537e498619800085b78000853e7c1885dd783086198363836b80008663744885aa800086198000853d800087d08363825a744887858000876878c4886480007bb280008b6d800088907c18866487f778a280008f5580008ca07e35821d78307c1c80008c13800086f0800087d0874b80007830882b783085b77c1883e883638153800086c77c18836b8000856d7b9385dd800088368000853d8000853e800085aa77ab86c77bb08768800086637c18825a7b9386c780008890800087d07f7b7c3780008a548000881b800088648000783080008e3c800087d4800087d07830783080008f17800085b78000821d7f7b83e880008b2f7c18836b800087d07c1884697f7787477d6d853d7c1883e87c9d895a793d846d800087688000856d800085aa73c3846d800088907d6e86067c1883e87c9d846d8000881b7c1889bc8363801f800084f58000863e80008bb884f57c18800088dd7c18899f800083e878308224800087406fe6800b800087d0783087d07ff587407830853d7830821d783088517f7b87408000800080008000800080008000800078f0889077f883b0783089927ef381197c63881b764785e7783087d07d3181197e6e863e783089ee78308407793d82b8800083e87c188da478308000800083e894dd8000800080008000800096eb820f80008925800083e880008bb889df7e2780008000800087d080008c39874b82e280008890800083e880008000874b8a738000881b8000800080008d7a874b80008000863e8000879880008bb8874b7d5d800083e8800089cf893487ef800081458000800080008dd6800083e88915852d))
def tree_w_13 : Tree := (.leaf 5573 0x800080008df58c2c800083e8800083e8800083e880008bb87e55862580008000800087d07f348aec800086f183097c187ee08a988000882a80008ad3800078307f6c8b24800086d180008ba08000783080008bb87c5d842d7c188a4f80007b907c188a79800083e8800087ec80007f7880008c8680008000800085df893f8360800083e880008a80875c80008000875c800087d08df588448000823d7830837486988a98800087d0783083d17f8c7f8c80008b24800087047d5486eb78307cb2800088bd8000882a793387b87d267d268000877e800086d1823d86677c18810e8000889e8000842d8df58404783084f680008708800083e88a0d81f7800088de800087d0800087b580007c187c188a2880008a988000869875f37e558861864080008b2478c084787c1883d17e7082587cb188bd7dbc858c800085247c1882588000877e80008704800084eb744882587ed486a4788a882a830f830f7c1883e8800087087b1986d1833c801c800087d07c1887d08a0d842d80007e0f80008bb880008a988000868384aa783080008c7a80008b248000843d86257dd278308892788488bd78d4848c800083d17c1884aa7bc6877e8000847878308524828e84aa744886a47c18858c800084eb862584aa7f388708783087047830830f86ed84aa800087d08000882a86257d24783087d080008914800086d180007a2780008bb87c188b24800083e886b9797f80008d3a800088bd7ce784b77c187f7d800088d48000877e7885843d7fe984b07d8a855a800086a48000848c8000853b7685855a783087087c1884787c1884eb8000855a800087d074e8858c8000830f7dc3855a800089148000870486257d247830883e800087a18000882a85fa79d480008c26800088bd800085fd7c187d67800089a37c1888bd800083e87c188365800085bb800086a4800084b77c188898744881d3800087d08000843d7c1886097a0381ab800087d07c1885317c1885037c1883c0800089147c1884787c1884787e5583c0800087a18000858c80b980f07d9b87a8800084a97c1887d0894c7dbc80008b907c188ca5800083e87830814f800083e8708782157e2d85fd7830874d800083e880008000800080008000800080008000783087d078108497783089f17e747f6d7974891478308458783088eb7d117f6d7be987a1783085c4783088607a9c80007cd984a9783087ed7830854879ac83e87ef582dd7f608974783081a4800087d0800085fd800080008000853780008a9080008000800083e880008b35800086a880008bb8800085fd800080007c3f840f800089148000800080008dd974217ed8800087a1800085e480008cd37b6c7b6c8ce984a98000884080008c4877b47c94800082dd800089ac800088c07c94807c8000800080008bd58000858c80008464)
def tree_w_14 : Tree := (.node 48 (.node 47 (.leaf 5263 0x8000800080008bae800084f8800083e8800083e880008b21800085867c188000800087d0800087d0800088d778307c18800088d7800087d07c188bb887d07830800087d08000891f80008ac183a078df80008b937c6a843a800087fb80007cc78a428994800083e87e948664800080af8bb88bb8800080008000844081078497800083e88000885488538110800087428cbf87d0783087c68000819e8000835a800088d780008739783084ef784e7f91800087d080008760800087d079c37d3c8000881c800087d086a086d9767f7dc985d685ac7d67891f8000841379e181b184ef883f8000843a8000827c800085997c188c2e800083e8800080588479981f800087d080008bb884ef80007c188d7e7d1f88d78000846c78307db680008996783087d07d33860a7fec8107800085ae7494881c800086177c1883e884a28274800085ac7448876080008510810782748000883f800087d07654820c7efa8274800088468000891f75b47e94876b849580008b678000843a88d57c707c18887d800088d7800085b9765f7a4780008bb8800087d07ca3885b7af57c93800087d08000881c7c9c846c846b8107744887007830867e7d1f860a800083e88000841e7c87883f7c1886177923821b8000841e7f348704819c87608000820c747e841e8000877f783087d07aac7b88800089b7800086f98000891f8476788880008bee800087d0800083dc7c187d1f88d78bc48000881c7de985b978307edd800087dc8000868f8000885b7b50803f744885667830883f7aae83027c1883e880008566800087048000860a7830821b7d1f85667f368706783086177c18820c80008566800086f98477876080007cf478a7894280008765800087d084ef783080008d2a80008841800080007c18810780008b477c1887d07eb2829a800082c58000875f8000883f800085b97c188320758c83777c1887048000885b7c1883e87d1f81477c1887067c188302800083127d1f81477f2986f9800086147c1885ca7a0d81b880008765800086ae7c1880dc800085a0800083a78cbf8b487c187c187c1889887c188bb8800083e8783084ef8000800080008000800080008000800080008000783087047830829a783087087c3383e878308706783085b9783087d07d1f8000783086f97830885b783086fa7d1f7e417bad876577028538783089b27ad07e417bd783a7783089fc783084c479788229800083e87c188a967830800080008611800080008000800080008a7680008a1880008a76800083e88000800080008630800087568000800080008af074488248800087d0800082a680008bb87c187e6080008765800087d080008ae27a787a78800083a78000885b80008d9a78307af3800083e880008920800088ac7af37edb8000800080008de4800083e8800082c3) (.leaf 5504 0x80008000800091898000800083f783e8800083e8800085e080008bb8800080007c18800080008bb880008db089c87c1880008bb0800087f6800089aa81da783080008b3c8000867880008b9d83cd783080008bb87c18838680008a2a86427c187f738b2b800083e8866d866d800080008a098a09800080008000878f800083e8800083e880008fa080007c1881f885e07c187e1780008da1800087d089c881f87ff88bb07a2881f8800089c880007e1085e08b3c800088d7783085c280007bac8000883a800087f6800087b57c187d9c8000874380008678783086427448818480008a098000838685e082858000856c80008f44877483e8825483a780008a6580007e17a0c67d9e8000783099cb7c8a80008bb07c4e8bb880008576783078a280008b3c800089b97e1085e071877aac74b2883a800081f88576822c7c18800080008743754f88d7800083cd80f180007e518a09800087f68000825a77ef81277a738b5c7ac0867880007e9d8000850f800089448000838685e07fbf800088f780008bb0800083e885e07acf80008b1985e08b3c80007d9e80008576783087318000883a80008806744881f87c18834971a9869c86f2896f7e44822c7f61834980008a0971cf7f86751c80b88f56834980008a13800088d776a27eae7c1883e8800087fb7c3e8afe89a27ab8783087d0800087798000867885e07bd780008bb87c188b3c800083bd80007eb7800087d08000883a800083e878308576800083e88000869c81f88000800081f8744881457c188a09800088067830822c8000814580008a138054896f800080b875ec81457e3387fb800083f07c54803c7bb9852d7fa98779800088d77e667c1b80008915800087dc7c1887f6800078b185ae8cfd8000883a800080007c18829f80008aa7800087297e3a8222800085767fd686bf7c188bb87c1883e87c1882967ba4834a80008a13815a83e88000843a74e6834a7e1087fb7c1888067c1882358000834a800087797c18896f8000803c7792845b800087dc7e10855e8000800380008843800083e4800088d785e07c9980008c2b7e108b11800083e878308687800080008000800080008000800080008000800078308a1378308222783083e87e108563783087fb783083e8783088227e10817b78308779783087d0783084bc7e10817b7c2487dc78308806783084247a1c817b7c1483e47830896f783084447a2c83e8800083e87e10894678308081800087d0800080008000800080008a6f80008b1180008a6f800083e8800080007830872980008a6f80008000800087d080008341800087d08000824d80008c0a7b717f59800087dc800087d0800088a478307d30800083e480008bb88000880c78307dd8800083e8800088068bbb87d37dd881c08000800080008b6f80008469800085a8)) (.leaf 5027 0x800080008bb88bb8800083e880008403800083e8800087d087eb87d08000801b8000848d800087d080008b1384037c3387eb89197c1884ec80008d528000784b800086da80008bb87c1888e184f978307c1887d0800087d0800087eb84037c1880008bb887d07c187c188bb88000801b80008bb88000800087eb8000800087eb800083e88000887587468000800087468000848d800087d0800083e88403835e84038919783083e88000872b80007f767f0a86da800087d08000896a7d297b8e8000876d7c1884ec800084f9801b8251783087d080008bb880008403801b7c1880008ab4800087d0811f87d08000794f80007ca29a547c1880007c189ae97d377cbd848d8000891985fd7c18800089e5800089197830848d80008000800085fd800086da744887707b7383437a4582157ede876d800083e87d558582783082157c188722800087d07830829c8000821578308ab4800084ec8403801b783083e877c17c3384728bb8800083e8800087d0800087eb800087d087d078307c188bb87d618919800087d082ba789a80008a207c1886da800086917c1880007e6886387cd7876d8000833e778c7f94800086388000872280008770826b82a671f8826b7efc8ab4800083e87eb4829c76b3826b801b8000744887d080008008800087d0800086cc800084ec7c338000800087eb7fbb83e880008bb88403783080008bd37c1887d08000849d87367c828000884e8000876d800087d07c18800080008466800087227ec18691790c7f947c96846680008ab483ab833e800082a670b8830b790283797fa087708000829c7bc0861d7efc86cc781583e87d52800880008675800083a3800087d078307dd384038a5d8000855e855e87d0800078307ea58e457c188b558000800087eb806a800087e47f3787228000849d7c1883e8800083fc80008ab4800087d080008039744880e77f2e87617c1886917c1882a67d0580e77c1886cc7c18833e7c1885737fde80e77c1883a3800087707c1883d57c3384ba8000855e800087d07dd37dd3783088a2800082b680008bb8840378ab80008c8a7c338b0a800083e878308452800080008000800080008000800080008000800073d086e978e5849d783084217fde83fc783086cc783087d0783084f47c338014783083a3783086917830895b7c33801479a6855e78308682783087bd7abd80067ae682b678308b58783081bb797d83da800083967c338bb878307c93800087c280008000800080008000883a800088d280008ad1800083e880008000800084ea80008a998000800080008809793281028000878b8000849d800088dc78307d1a8000855e800087d080008d4378307932800082b68000892f80008ba57c187c187fae839680008a6a800085a3783080008000800080008f408000807b800083e8))
def tree_w_15 : Tree := (.node 1 (.node 2 (.node 10 (.node 58 (.leaf 5066 0x8000800080008ccf800083e880008313800083e880008ad9850985de80007f2b7c34840480008b778000890c844f7b43800086b4800089aa80008b3b836b7830800087d0800088127c188bb88000783080008bb8881287d07c188bb88000800080008927881283e8800086bb8000800080008bfa8000800080008314800084bc800083e88000871180008000800088d0800084047d2f88e7800081f6800084e87afc86b4800086f18000852479308100783087d08000878f8000875378307d188000880a800089aa800087d078307a46800087ec7c5a88128000869f7d2d7d2d80008812800087d0800082d37c18811580008bb8800083e880007f2c7c1884fd80008404800087d080007c187c188bde800086b480008711763a7e0e800087f6800087d0800084ff7b1d82ed796b840e7482880a800086f18008836b8000813b746487ec800086bb840e83e87c18813b8042862d800089aa800082b77448813b800087d0800088127c5a7eeb800084fd800087d0800087d0842a7b44800088e5842a86b4800087d08000798d80008bb8800087d0800087d080007a2678308a038000880a80008711760a80c77c1883e8800087ec73fb84b280008344800083e88052862d743886e0800082d4800083e8800086707c1886bb800082b7744883e8800086207a0a89aa80007c2f800087d0800087d0800088128000783080008bb8800087d08000839780007d7580008aed8000880a800087d07c5a7b9480008705800087ec7c1887d0800080c7778f83477872862d7c188711800083448000834780008670800084b2806c82d4741e83477c2f8620800086e07c1882b77c428412842a87d0783086bb80007d44800087fa800083e880008bcf8412783080008be28000880a800080427c18815d80008a2180008a7d7faf839780d47f7c7bd686398000862d800087d07c1883727872825a7c188670800087d07c1883c17c1881c97e3986207c1887d07c1884117d9f81c9800087d0800084b27c1883e8787283607fae8396800087c07c18812c80008748800087d0800086fc798c79ce80008b3080008000800080008000800080008000783089d478728042783083647c18865078308670783083977830875a7c5a82687830862077e08780783087a97ca97e80783087d0783087d077fd86897c8d7da17830839678308bb8783087d07c5a7f21800087d074f684497830851477c3829c800083e87c188ba878727db68000868480008dbc80008000800080008000860e88128a58800080008000874c8000822680008a088000804280008b42842a7e3e800087d0800083e880008b91842a7c80800083968000878080008a71842a7e43800087d080008bb880008bb88042822b800083e880008fa0800088fc80428acd80008000800088318000819e800089fb) (.leaf 5258 0x8000800080008cba800083e887d083e8800083e880008b1a80008588800080007de285b2800088ad80008a13862b7c187c1886af7c188b8e80008a1e824e7830800088a180008ab18000890881387830800080009c5a7c18800080009872783080008bb8800083e8800088d284ea7c1880008fa080008000800084b784ea80008c3c83e880008854800080007c18884e800085b2800088d2783081a080008466800086af800087328000862b7c96807e800088a180008535800086367830807e7c1880007fd68b8e796885208000807e79c1896180008ab18c307c90744883e880008bb880007c18800084ea800087d08000841b800083e888d280cf80008bb8800085b28000870884ea7c1880008bb87edf86af8000885480007db8783087d0790188a17d1a84ea7f2f8243800084bc78308000826187327ab98289800084bc8000896174488535800081387cec84bc800087d080008b8e80007c70744884bc7863803380008ab184b78102800088a4800089178000800084ea7ce780008e8c800086af800087d0800078307c188ddb800088a17b50870885b27aed7c1889f3800083e878b488547c1882437c80860b800089617b7e845075a78289800084507c1887d080008732744881388000845080008033800085357c188058744884508000852f80008b8e7d1a7db980008614800086de7ef98ab182fb78ff800089fc800088a18000862380007c18800089ae783087d0800087d084ea7f24800085c68000896180008708783082437a0e81de7c1887d0800088547ea18289765281de7c1880337c188450800083e87a0e81de7a5a852f7efa87327bf68440800083e8800087858000853578308000800087d0800084ea80008b8e800078307c188be280008bb8800081027c188000800087d07c188961800086238102811e800083e87c1887d0800087d0800083e8793281027c1883e8800087088000842379327f617f1e852f80008854800083e8762c7f617d9a856a7b7683ae7c3a882880008349800084ea7c1887d08000809f7b798731800086c37d65884085877a6e80008b1980008000800080008000800080008000783087d079328102783085067c1886b2742c83cc7a6b8623783087d07ee282ca7830852f783087d07830880b7cb57f807830856a783087d0783087d07c187f80793284ea78308bb878308c107c18809d7ef386c37830869478308487765782ac800083e87c188bb878307e568000869480008bb88000800080008000800087d0800087b480008000800088ee783083e8800087d08000810280008bb8800080008000865c8000862380008bf378307c18800084ea800087d080008bb878307c18800086c380008bb880008ff878308000883383e8800090a28000886f800083e88000800080008a7c8000823e800087d0)) (.leaf 5029 0x8000800080008dec800081d1800083e8800083e880008a2c8000859080008000800084f984048ac3800087d080007c18800085ee80008b5a80008a2c825c78308000884780008a4f800088de810e7830800088e7800087d0800086d682ee7c1880008910800083e886ad86ad8000800080008bb88000800080008404800083e8800083e887ec8aec80007de9800086e8800084f980008a04800081a8840483007a3685ee800087db800083e880007f1878a78847800086db80008644838d7e3e8000884a7c348b5a80008690800079708000891080008a4f7f0682ee7d2f7d58800087d0800087d0800082c58000814087ec8a78800083e88000801c800085287d2984f9800087d086db7a0180008cdb800085ee800087047c347dc0800088f3800088477448865380008000801c850b8000884a800087db7a8c825c79d88123800089108000851178a98461770d81237e42861280008b5a78307f067df28123800086907e978a4f80007edd7d9d83e8800087d0800087d080007c34840487d0800085ee840487e98000783080008d9d80008847800087d0800079d8783089b574c2884a7fa2863980007f54800085cd80008910800086537448825c800081e57c188612745387db80008461800081558000857f8404851170608000800081558000861580008b5a78307edd84048358800087d080008a4f80007a457c188740800088478000840484047c1880008b418000884a800087e980937c187ba187597c18891079d187d07e7b7f548000837178308612801c8000800083e87c1883718000857f800086537c1884617814837180008615800087db7c188000784c83e87fab86c3800085117c898000800087d0800080007f868b5a80007c9280008bb880008b1b800080b97c188000800087d07c188bb880008404801c8000800083e880008612800087e9801c833c7448826d7c18857f800087d0800083e8784c826d7c1886157c34801b7c18873b800086397f4986c37e8386537c1880397a81865578307c1880008967800083e880008a3d800087497daf86068655783080008e2580008000800080008000800080008000783089fa78e980b97793834b7c1885a6783086bf784c8404783087247c1881be78308615784987e9783087d07c187dd6783086c37a7787d078308b2379ee79ee800078309f5c7c1880007c189f5c78307f79874974eb84c2783087d078307fc9800083e87c188d4f7830826d8000800080008df28000800080008000800085b280008aa7800080008000873387ec81ca800089fd800080b980008b0c84047de2800086c38000840480008bb884047d2580007c18800087e98000906184047f428000874980008bb88000800080a3832a800093a47c18800080008bb880008bd480008000800088aa8000800080008afa)) (.node 8 (.leaf 5421 0x8000800080008d56800083ef87d783e8800083e8800089f57f80875087d080008000845e800088fe80008bb8858d7c1880008740800087d080008ded858d78307c188844800085f880008e528000789e7c1885f57da1857180008d4189c77c868000881b800083e8800088bc8000806e80008bb880008000800083e88975858d800083e88000895d87e78007800087e08000845e8000896e858d8368800083f87b8887408000860d800087d07448801080008844800086bb80008a057c187c288000829f783087d080008a6a858d7b587af486ac800085f8783089598a997f30800087d080008571791c84d48c71831880008a45800083e887008000800087008000845e80008bb888fe7c1f7c1888f7800087407da5895d74c87f807c18850f800088447448872a7448847a800081447830860d7e3d860d800087d07d5c8144880c86ac7eeb86bb7aca8682742c81447c1883e8800087d07c1885717c3484048000865d7a4085f8800080ec800087ec800087d080008571858d7c1880008bd480008740800089308000783780008c867c8c88447c1887d07bd47bd48000889e7acf829f8000895d8000847a744884b6800086ac8000872a76e882a07ce684b67c1883e879d5860d80008682800084b67aa58275744886bb80008189800084b6800083e8800087d0774481a5783087d080008b4d800085f88000783080008bb8800088448000832689757bd47c188dee8000847a800089307c187d7c7c188a06783086ac800083e88000847a7c18861e7ab883e88000895d783082a07c18854777f482398000872a7c1886827c18854775f981b17e5b860d7da181898000854780008b4d800086bb7c2d7c2d800086f980008664800087d088167c187d778ae180008862800081a57c187fbc80008b6a80008a497f3e83267c18803c800087827d7883e8800089307caa847a7bca839a800082397c1883e8800082a07494839a800081b17c18895d7c1886827bcc839c7d8b8b4d7f5a872a79077ece800083e8800086647c1887d07c187f29800087d080008000800089757c1880007c188bb880008000800080008000800080008000783087d079d581a5783084247c188794783083ac78308326783088627ca485f8783081b179908930783084537c5c85f87e228b4d74487c18783087d07bb385f87aac866478308bb873717cdd8000863478307c1878308975783083117dbd8a1c800091457c188bb8783083e88000952d80008bb880008000800080008000897580008794800080008000880c79d5858d80008599800081a580008c4a800081a580008b4d800083e88000883b768b7dbd800086648000893080008bc479d579d580007c189cfd7c18800080009cfd7830800083e880008fa08000952d81a580008000800080008d5d800087d087d08000) (.leaf 5151 0x800080008bb88bb8800083e88096847e800083e8800088b17c18872a8000805c800083f57ca7899180008a2586987c7480008883800088ee80008a2282ad788c800088d77f36870680008c1184417830800087e38000856080008ac3847e7c18800087d0800083e8800087d0886680008c5f8c5f80008000800083d77fef83e8800083e8800087d08866800080008866800083f580008869800083428000847e80008883800084c97a85863d78c68096800088d78000885f8000863a779a7cae800087e3794e88ee882988297b257b25800087c680008706800086db7c187e778ebe88777d908560800083e87830825f7c188a01800083e880007fef800086477c2583f58c418bb880007c187c188859809688837c1887d080007f5a80008471793788d7800088698000825578b9808978aa87e3714180e18000825280008089800087c68000885f8096844174487fb8818b8526800088ee735382f3800083178000861980008706783080007b4786ff7d2487d08000856086ee7c0780008ae7853a88837f4587d08000783080008b9b800088d7800087d0847e7b72783087b37f0387e3800087d075db80a0800083cb800087c682e18869766380857b9a836a800085267c18800073ef81aa8000836a80008619847e885f7c18800074488387800084f4800088ee78307ece8000876f800089917c1887068000783080008b57800088d7800080387b6f7b6f890f8fa07cae87e3800087158000796f80008bb8783087c67ff683e87cb880a0800087d080008526800087d080008341706083e88000861975fe88697dc281aa7c188360800084f47c1880007c187c187cae8360800089917830885f7ae67ece8748836080008bb8800088ee800078307f78874880008bb88000813f7c187f57800087d080008bae7c5080387c187d57800085b07c1885268090871580008234783685b07c1886197cae83e87c18846d800085b07aec84f47c1887d0800081aa7ddb85b08000899180008869788c788c7448899880008bb878307830800082b680008d808000800080008a86847e7830800091688000800080008000800080008000800078308866796f813f778780967c1889e3783087d0783080387830861c7cae85fb795c84f478308715783086037b82821379f18991744880007830853a7ed5855380008bb878308bb877d4826b753a7a43783080007a628c517830869e7a7c7e648000800098067c1880007c189806800080008c4e8000800080008000800087d080008bb8800080008000847e800083e8800088dc8000813f80008a047830800080008991800083e880008a8d78307c1880008bb8800087158000892278307830800080009bee800080008000941e78307c18800080008fa080008a86847e8d80800080008000903983e5800080008000))) (.node 6 (.node 11 (.leaf 5430 0x8000800080008ed480008243800083e8800083e880008b787e0585d5800080007e64863480008b19800087d083e87c1880008947800087d0841e8bee80007830800087d07c76882e80008d088000783080008bb8897d824c7c188bb880007b798000882e800083e8892089bf80007f6180008d1280008000800084da80008349800083e880008ce380007e5b846b86108000863480008aec800081ed84158228800089d08000893d800083e87dc57e40800087be78308b198000880680007a588000882e800087d0785d892078307c18800085388000882e800087d0783080008595892a8000824c800085d7800083e88000888c800083e888c280f2800087d08000863480008bb887317a737c1888d680008947800088fb78307e05800084ee781e87be80008aec7dd881858000810674a6882e8000893d7c4e841e85017fac7e6485387f618b198000853878307fac800086f0783087d07dc583e88000828e8b7784a48000882e7a1f81ef7830867680008b828000824c85957d0a80008a5e80008947800087d080007a0c7c188a13800087be80008aac78307ca18000862b8000882e7573851380008185808382438000853880008aec7412841e81e480f37c1886f071cd893d80008415850880f378ec84a480008b19800082e07d0a82998000879a800087d079747f4b800086818000897d8000882e838a792280008a69800087be800083e880007df485958b9c8000882e800086b97e9b7e9b7f2a87b48000853880008aac783081857dc583cc783086f08000812b8000841e7dc58191800084a480008aec797c84157c7a81918000876a8000893d7c1882e079dd81ad8000897d88038b1975c27b098000859580008bb8800087d0800078308000897d8000882e8000813d800081dc800089f07c1888c2800083e87c18828380008608800086f07ee986b98000856d770d82207c1884a47ef48aac8000841e778b81c77b2986857c18812b7eb48415800080008000897d81878aec7c1882e078577dec80008bb88000897d80007e2c7dc581d4800087a980008bb885bc7c187c1885bc800080008000800080008000800080007830897d796d813d7830866b7c898410783087d0783083e8783089557dc58028783a8685783086b9786687d07d85802879dd897d78308aac783086ad7c18802880008bb874487ecd783086c879dd83e87fd987a978308bb8735d7a047aef87d07c187c1880008d657830800080008bb880008d658000800080008000800087d080008bb8800080008000914d897d83e8800086bb8000813d80008d3d859580008000897d800083e880008bb885957c1880008bb8800086b980008a9582c57830800087a980008aac80008ab082e0783080007c189b31800080007dec991d7c188000800080008fa08000859580008000) (.leaf 5541 0x800080008b3a8b3a800083e880008683800083e8800089ed800087d080008000800086838000882180008ae986057c187c96884e800087d080008d5685867830800087d08000860580008fa08605783080008bb8800086057efb87d080007c187c188a3e800083e88000877f800080008dd58dd580008000800083e8800083e8800083e8800089ed80008000800087d08000868380008752800083e8800083e88000884e800086567830870178308000800087d0800084398000897778308024783087d0800087d086058bb880007a4d8000865680008605800086cb76137e358fa089ed80008605783083977e35821d89ed8bb8800083e8800080008000860589ed8683800087d080007c187c188b3a8000884e7e3586058000800080008752783087d0857d87528000831978b7836a800085507e86865674488977800080877f3a83738000826e800087d0772b808784ff8605783087d0800086cb7935810583e88b047a4d860580007faf800084ed87d08ab37e35860580007c18800088d58000884e800087f4894a79aa7c188bb8800087d0860583e878308000800087d0799885507613821d800081ef800083e880008373744887528000897775b081688000860571da8656800083e88000856286058b048000826e7c1886cb74488168800086cb800087d07e357bc780008b437c1883e88000860589ed783080009388800087d07df583fa880f7d9280008c4880008550800087f480008000783088607830837386058000783081ef80008478783086058000821d800089777e3582ad80518b048000875280008000761382ad835885d780008656783086cb7add82ad800080008605826e783080008000860580008bb8800087d080007830800089ed800085508000821d7c18817a80008cbd800084ed800083fa7c1883e8800088d580008605800087f4800082bf744884ed821d8b0478307c188000899b7c1884ed821d85d78000821d783080007c1884ed78307c18800087d080008ab37d1d84ed80008bb87e86882179fb79fb800087d0800087d0800086057c187c1880008bb880008000800080008000800080008000783087d07a4d821d783087d07c1883e878308b047a4d83fa783086a77c188000783085d7785487f479d78bc17c187c1880007c18a15d7c1880007c189d75783080008bb870607f3a78308e9b7c187c18800087d078308bb876658000783080007c187c1880008c0978308000800083e880008bb88000800080008000800089ed80008eec8000800080008bb886b989ed800086dd8000821d80008a8f8605821d80008000800083fa80008fa986057e3580008bb8800087f48000800081f98000800087d0800080008000928386057b5280007c189770800080008000998d7e358000800080008fa0800083e88000821d)) (.leaf 5892 0x8000800080008bb8800087648b4c83e8800083e8800087e280008b3a8b3a80007d77854780008bb8800089ed86057c187dad896589b687d080008d9e80007830800087d08000899280008d7185a1783080008b558000853e80008a5986717c18800087d0800083e880008b4c8000800080008bb880008000800087648b4c83e8800083e87c18891d8000837c8000868380008547800087d0876487528000829b80008965800087e27f3a870a805a7eb38000871380008b70800089b678307acb78308b557f9487648000898980007ac27bfd87b57dda89928000870185bc7ebc800087d08000853e800087648764829280008926800083e889f6837c8000867a800085478000894187647f94800088e780008965800085358764836a783084ff7b5b8713783087d08000870a800081177f9d8b55800087e2803685ce77f17dfe800087b577e88b70865685a179867e3e800087d0800087647448870178ff80cf7986853e80008992860e837c800084b77c6989927d6e853e80007f948833889f800089658000871c86837bac80008ad7800087138000855978307f82800086ef80008ba67d65814d7448870a7b378307800087b5800087d07bac85627529821d783087d07c2a87e27bac85358000821d8000815680008b707f318701766582fe800085aa7830876487647f9480008a627f2886f88000899278307bac80008ace7c18871380008bb88000788180008bb880008b558000871c78307cc3800087d07c1887b57c8d845d8000870a7c1883e8800087d07c18814d7c1885627c1883e878308156800087d07c1885357c1883e880008439783087e2800087017c1883e8800086f880008b7078307ccc783087d080008bb8800087647830783080008bb880008bb8800087d07c187c69800087137c188b9d80008bb87c847c847830832b7c1887d07f4c871c800088d577737f43800081567c18845d7c1885627c188bee7c1884397c18814d744891a27c187fdc800086f87c1887d08000886078307fdc80008bb880008bb87fb87bd07fdc83c4800087d080008b7083c47c18800087ac8000800080008000800080008000800078308bb8800087d073dc78307c188a477060783080008bb878308cbd7f94865f783084397830871c783087647f94844b783086f87830845d8000876477c4844b80008bb870607ab978308c487f94844b8000897778308bb874907c187a4485bc7c187c187c188fa078308000800089a480008fa08000800080008000876480009ed47c188000800080007c189aec7c188000865f800087d0800090a587647830800087d080008bb880008b4c837c783080008bb8800087d080008b4c837c7830800087d0800086d4800090308764783080007c189ed47ea1800080009c4b78308000800080009704800083e880007c18)))

def cert0 : List (Sq × Tree) :=
  [(4, tree_w_4), (5, tree_w_5), (6, tree_w_6), (7, tree_w_7), (12, tree_w_12), (13, tree_w_13), (14, tree_w_14), (15, tree_w_15)]

/-- one evaluation for the eight trees: the geometry of the board, which every leaf of every tree reads, is then
computed once -/
theorem cert0_ok : cert0.all (fun e => checkTree .white e.1 [] [] e.2) = true := by decide +kernel

theorem ok_w_4 : checkTree .white ⟨4, by decide⟩ [] [] tree_w_4 = true := ok_of_cert cert0_ok (by simp [cert0])
theorem ok_w_5 : checkTree .white ⟨5, by decide⟩ [] [] tree_w_5 = true := ok_of_cert cert0_ok (by simp [cert0])
theorem ok_w_6 : checkTree .white ⟨6, by decide⟩ [] [] tree_w_6 = true := ok_of_cert cert0_ok (by simp [cert0])
theorem ok_w_7 : checkTree .white ⟨7, by decide⟩ [] [] tree_w_7 = true := ok_of_cert cert0_ok (by simp [cert0])
theorem ok_w_12 : checkTree .white ⟨12, by decide⟩ [] [] tree_w_12 = true := ok_of_cert cert0_ok (by simp [cert0])
theorem ok_w_13 : checkTree .white ⟨13, by decide⟩ [] [] tree_w_13 = true := ok_of_cert cert0_ok (by simp [cert0])
theorem ok_w_14 : checkTree .white ⟨14, by decide⟩ [] [] tree_w_14 = true := ok_of_cert cert0_ok (by simp [cert0])
theorem ok_w_15 : checkTree .white ⟨15, by decide⟩ [] [] tree_w_15 = true := ok_of_cert cert0_ok (by simp [cert0])

end Owl.Props.C19
