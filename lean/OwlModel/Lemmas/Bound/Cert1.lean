/-
C19 capacity bound: LP-duality certificates (trees) for White with the king on eight squares of files e–h; re-checked by the
kernel in one evaluation (`cert1_ok`). Generated data; see Lemmas/Bound/Certificate.lean for the checker.
-/
import OwlModel.Lemmas.Bound.Certificate

namespace Owl.Props.C19
open Owl Owl.Lemmas Owl.Props

def tree_w_20 : Tree := (.leaf 6848 0x8000800080008cfc800087d08dc485f4800083e87c188b598b7f89738000820c800087d08000891480008bb889dc7e2480008b1680008ba8800089c684027a3c80008a1e80008ad780008ba485cb7a2780008a0c7fa3877380008b3289417e0f80008bb8800083e8800089298b2081f780008d3c80008000800087a58d8385df800083e880008ab78c2183e880008839800087d0800089148000858b8000845180008b1680008771800087d07899806980008a1e79748914800089c678ff7d5080008a0c80008ba88bef87bc77617d508ebf87d080008ad77b92874a78ff80cf800089548000877380008541800084b78e648a7c800083e880a483bd8000889f800087d0800087d08b20800080008b207f5e8b16783086cf88db81a3800087387a7e8a1e7d5c852c7d5a852a7b80835080008a0c88fe875a7a2689c6785b7f93800085da80008914876383d4741d7f937a3e85f67c088ba8800083627c4385c080008a7c7f1f8ad7843181598000841380008b7c8000877387d07fd5800087fb80008b16800087d08bc27c187c188bc28bcb8a1e800087d0778580f8800087da76848a0c8ccc83187830852a800085f37c1885da7c18852c800089c6800085f3800085f68000875a84dd83ce76a3846680008a7c80008914778e82ca80008466800088b080008ba88b207e2478308844800087d080008ad788197bed80008c2c80008a1e800089d87af67af680008bd480008a0c800087d0800080f8800087ec7b8085da800087d08000852a800087ec7c1885f67f308318800089c67c3487ec7ec48a7c778e848a800083ce7c1887ec800088b07c18875a800082ca7c1887ec800087d0800089147c187e2478308bb88000873e80008ba887da783a80008fa080008bb8800084da7c187ede800087d078c885da800089d87c18833d800087d07c1885f6800087d07c18852a800087d0800080008000800080008000800080007cf888b07c1883187c1883e280008b16800087d08000848a7c2283507f5e8b168000873e7c1887b97c1880b380008b16800087d07c188bb880007c2280008b16800089c2800083e8783082c680008a4f783088597d0a84da783087257e768667800083e87e2089d878308912759082a3783088b0783087d0800083e87b8082e6783087d0800083e8783087ca7b80873e7b86873e78308419783087387ffa8416800087d07830872e776383ce7c4c87f4800083397c188ba17830800a80008bdc80008c4180008000800086ae800087d0800083e8800083e880008b0d800083e8800088ec800084da80008cfa74488000800087d0800089d8800083e8800080008000873e800087d080008bb274488000800087d0800083e880008b20800083e87f51833980008801800087b67c1887d08000800080008b16800083f280008bb8)
def tree_w_21 : Tree := (.leaf 6398 0x8000800080008cbb800087488c4284fa800083e88d458b2f800088d4800081128d7e87d07fc78b7f7c1887d080007dde80008b427c1888c180008bb8800079427c188a1080008a947c188ae98841797080008b638000860f80008a34878b7d5880008c06800083e8891087d08000814080008b1e800080008000857f8ddf8528800083e880008a608ab6836080008756800087d0800088d3800084ec7830836e7f8a8b42800087477c1886ee7f867f8680008a108b838b7f800087d0760b7b9e80008afe7d0988c18485870180007e3d8000881e7edc8a948000864c82b1800080008b1e8000860f800083e87c1883e87c188bae800083e8800081977c1887d0800087d08000878e895d7f7880008a2780008b4280008678744881048000863f80008a10857585a8800086ee7448825780008afe88338528744886b67d43812b7496881e85288b7f800084368000812b8ae28b1e800088c17a948264744882bb800087c68d458a9474488000800086a380008ab38000860f80007daf80008a8b8d458b42800083e880007d817c188c527e588a1080008580800081048000886a77768afe76d88290800086ee8b6f84828000881e7c1885a8800086b67cb284828d918b1e7c1885287c66843673ae848288c486cb80008b7f744882327cb284827efb8b16800088c17c187d57800087d0800088ea80008a94857f79c780008bb880008a10800083e8895d7e0a80008cfb80008afe800083e87d1c8104783089138000881e79dc84c77f1e86ee8000852b7c188b1e80008290800086b678308499800086cb7c1885a8783087f28000849980008ab37c1885287fcf83b778e18499800088ea7c188b7f796f7d578000873e80008b58800088c184e479be80008b2680008b53800087d085da81f2800083e88000881e800083e87c1883e8800083e8800080008000800080008000800080007c1886cb7ebf84c77ee686b6800086b580008ab37c188290800085057da586b5843588ea7c1885a8800083b7797086b580008b587c1885b18000813f800086b58d4587cf7c188bb880007da6800087d07c188bb87df781df783085da8000858c800083e8800087d075be855e745f81a475d5847a783083e8800083e87c18818d78308ab3800083e878308a9e79bd7fc4794a88ea78a48508783088ed8000821e7fa08b58783083e87830879f7a1d821e7d7485447830888c783085277c498606800083e87c1889997830818e800089ee800083e880008000800089c280008b5380008862800081df800089467830857580008bb8800087d0800083e87c18818d800088ea800083e880008e867da57da580008b58800083e880008cd578307ce880008544800088f080008b8778307f43800083e8800088dc8000890f8c39832b8000800080008c74800085768c898713)
def tree_w_22 : Tree := (.node 36 (.leaf 6115 0x800080008cc18cc1800086c78000845b800083e880008bb87c1887d080008073800087d0800088a380008ae587707c8b800089ac800089dc80008bb8845b78a380008aa47c1885dd80008cb287627ab0800087d0800085c380008bb888437e98800088ec800083e88000888f8000828080008c2f800080008000854c80008668800083e880008a60899b82618000873a800087d0884388d9800083e880008352800089ac783087d0800086fd80007f6a7b048aa4800088a3800087d0849c7ccc800087d07a3c89dc863788d580007d62800088ec7e0d85dd800087d07c18814a800088478e0b85c3820884a7783085328000897e800083e8800081648000891a800087d0800087a588437e79800089f5800089ac7830867887bf81b28000860d80008aa488938580744884277bc88398800087d0800087d0840b86d274988171800088ec751b88a385fe84e27d8981717f1b86eb800089dc761e83e88000833480008747800085dd884380bf7830871c800089a07df385c388807d7c80008b047df489ac800084b8897f7dc780008bb880008aa47fd583bd783081b2800087d07c1887d07df985c97c5784277e5386237d3488ec8b0f85807c1886d2744886237a3b850e783087d0863884e28000862378a38747800088a3800081d68000862380008725800089dc88437cd778308a0b80008a80800085dd7830799480008df380008aa48000800080007f4e7c188df1783087d080008459800081b280008a097c1888ec7c1883bd80008427783087137c18850e800085c97c1886d28000863a80008747800085807c1884e27830863a7b6d8725800087d07c1881d67e6a863a80008a80800088a37c187cd7800087ea80008a05800089dc7830783080008bd280008bb8800088f57c18833680008000800080008000800080008000800080007c18850e7c898459800084fa7c1889837f0487477c1883bd7c1886d28000860e8000872a800085c97c1884e27830860e80008a807c1885807c1881d67e3e860e80008a05800087d07c1880008000860e800087d080008bb87c187c188000884380008000800083e87830871e80008cdd721582637ebf868f800083e8783088f578308981800083e874bb856d7c18850d783087257830845978308aba800081ac7ae08a80783083e8783087d07dc481ac7e4d8a0577838674783085be7b0381ac800087d07830885f778e83467945846f7fec83d480008bb878308000800088578000864b8000800080008b068000869280008d69800083e8800083e8783082aa8000893e8000868f800089557ec27ec280008a80800083e880008ea278307ada80008a058000877180008bb878307ab5800087d0800087d0800089a678307e9d800083d480008a5c8000872e7e9d82858000800080008c47800083e88000866d) (.leaf 6000 0x8000800083e883e8800087d080008bb8800083e8800087d0800087d08bb883e8800083df800088c880008ac987d0800080008baf80008bc1800083e880007c1880008b418000884780008bb883e878307c1887d08000856980008e1f8a377c18800083e8800083e8800089bf8bb885e18c388c388000800080008750800083e8800083e8800087d0800083e87c1887d07c0f83df8bc18000800083e8800083e87ff78baf84e084e07b2986e1800080007ba18b41800088c8800083e883687c1887d087d080008bc1783087d080007c0f800080008000884780008a3778307ff7800088508000856987d085d7800083df8000885a800083e8800083687c1887c7800083df800087d97830800080008bb880008baf7b3c83e880008009800087d080008b4183e88000800082f9744883e886d887d0800084e0744880007d1080f8783088c8754088c8800084e9800080f87c98846880008bc176af864f7c1880f88000885a87d08847800081ef783084e0800089bf7d99856988477f80800088c880008baf800087d0783080098bc183e880008b417b1786cf7c188178800083e88bb887d08000830c783082f97448800080007c18a710783080007830a32878307c188468800084e0800084e97c18800078ba885a800088c88000864f74488000800089bf7c218bc180007e07800083e880008b657c8f88a383687b98800087d080008b41800080008000800080008c2f7c1887d0800087507c1880098000884781668000800086cf800082f976ca845f783084687c18830c7c188000800082828000885a7c1880007d1984e975ae82827a1f89bf7e1184e08000864f8000828280008b65800088c8854e7d507ab285f3800089a480008bc180007830800089db7c188bb8800085357c1883e88000800080008000800080008000800080008000800084687f8087507c1883e87c1887d08000885a800086cf7c1880007c1885bc800089bf7c18830c7c1884e97c1885bc80008b657c1880007c18864f7dec85bc800089a483e888c87c187f49800085bc800085fc80008bb885bc7c18800089a480008000800083e8783087d080008bb872fb829b7d658535800083e8783087d076e38a6b800083e8759585357c1883e87c1889bf78308750783083e87c1880007bc58b6575928431783088d17f087f087dec89a4783086f4783087d07a447f087e2c85fc783083e8783083317a0482f0800083e87c188cb078308000800086d8800086838000800080008bb88fa0853580008e53800083e8800083e88535814d80008bb8800085358000891d86837d6580008b65800083e8800087d087d08000800089a48000875080008cb9867d79c4800085fc8000881080008bb887d07dac800083e880008adc8000871988ac819480008000800087d080008a248fa0857c))
def tree_w_23 : Tree := (.node 5 (.node 21 (.node 12 (.leaf 5699 0x8000800080008d70800083e888d384eb800083e880008a4380008715800081037da4857480008a8b8000892986447d1b800089be7c18881c80008b3684697933800087d0800088fc80008d47857778308000895c800086177c188ab78a8b7c1880008b8d800083e8800086ce86ce800080008e738000800087d083e8800083e8800083e88a8b8a09800080008000885280008574800089388df1832d78b2846a7e0689be8000865b7dd885a880008082800087d080008a8b8000874e78307c9a8000895c8000881c86a3895f78307b6c800087a58a8b88fc7c1886cf78307ed380008a8b86a38617800082e6800082bb80008bb8800083e887d080007ed386a38000857480008ae578307c18800089d2800089be8000875686a37f45783085ea7c1887d0772986c9800085a8800082028000895c7e1685e676b686567cc280aa744885977c0a8a8b800085777c1880aa8000884f8000881c800082e7744882f1783e87d0800088fc85777efe80008679800089b28000861786797c1880008a61800089be800087d07ae77ae7800089ce800087d080008717783081757bbd85e67da4895c86d783b2728885a88000838d80008597800086c98000865674a3838d78af884f7c1885e67b2284817a2e838d800083f67ee18a8b7a7b824b7da78577800089b27c64881c826f7b168000895f800087d0800088fc8577783080008d477c1887d0800083e87c187ecf80008bbc7c18895c800087d082bb7d43800087d4800085977ae78717800085a87c1c83ec8000884f7c1883b280008656744483ec800083f6800089e0783084817c1c83ec800089b2757585e6800082be800083ec800087d080008a8b7c187c18800087d080008a3f8000881c87d078307c188bb8800080008000800080008000800080007dc785c2800083e87c18812b80008b6d7c18884f800087d080008837783087857c1883f6800087177c1886d87ed3845d7dfa89b27c1883b280008481795d845d800087d07c1886c97c18834c7c8d845d80008a3f8000875c7c188000800084a8800085e37c188bb884a87c18800088907c1889aa7dcf81b77e5182397ecb88a9773b8887800083e87830851377f884c1783083f6783083e879f08c1f7d128246783089b2783087d078308ac07ed38081783087d078a98717783086da7ccc80817e878a3f7830856178308734787c7f6e7e1385e378308949783083e878f0832f800083e87ed38b44783080008000871780008c6f80008000800082397fcb879b800087de800081b7800088fb800083b380008bb88671925b8000900778307fcb800087d0800083e880008ea878307be380008a3f800087d080008ac279727972800085e3800087ea80008b1c78307d5a800083e880008949800087d0800081428000800080008d31800083e87c18852a) (.leaf 6196 0x8000800080008bb88000879b8c7c83e8800083e880008a9f800089ad80008000800087d080008c56800087f6840e7c1880008b34800087d080008cff852f7830800089998000890d80008c9a78f478f4800088c37f0d86dd80008bb8776c7cdc80008bb8800083e8889487d0800080c480008de9800080008000859f8a4b84ac800083e87efd89e27fcb83b3800086b7800087d0800087d0800085c57ee782cf80008b34800086f18b62872775617ee779f9899980008a857d5f89177aff7aff800088c389308b207f6388b278307b9e800087d08000890d783087d07f867f8680008a01800086dd800083e87830836e80008b3e800083e8800081b780008756800087d08000885b78307fcb8000883d7f7c8b34800086cd7a0d81dd80008455800089998000870784ac87277448806d792388c37f2186f18000852f800083507e3e860e7ae58a85800087337c85806d80008894800087d07c1883e87c1883e8800087567d55890d875680007c1887d08c7c87d0800086dd80007dcf7c188bb880008b347c1883e87c187fcb8000894c800089998000885b7b1780dc80008564800088c3800086cd7c1887277448817c7448860e7c1887077830852f7d94817c889488947c1886f1744887338000817c77b6875680008a858000810974488550889483e8800087d0783084ac800087d0800089878000890d783079e780008bb8800089998000857a7c18800080008921800088c3800080007c188a37783085398000860e8000885b783087277ebb82a3783088947c1886cd80008630800082a3800087567c18870780008733783082a3878b83e8783086f1793981098000853a8000898780008a857b057b057830892280008aa0800087d078ba78ba80008d0a800080008000800080008000800080008000860e8000857a7a2580f380008bb8800088947830800080008aea7ae587d0800087567ca3885b706081e58000869d744883967c1886cd800087338000869d800089877c188707800081097448869d80008aa08000880a7c187eed8000869d800086887c188a857c187ca280008a857c1889f6800083e8800083e87cdc83e878308a4b800083e875cf827b7b548000783087d079c2857a78308ed27c187c1880007c18a3ec7c1880007c18a004783079e789877830885b78308a397c187c187ee88aa0783088a3783084f17a0c80007eb8868878308aef783082d57a3c83e8800083e87c188bf27830808a800087d080008e3380008000800083e88a01861980008bb8800083e880008663889482317c18800080008bb8800099eb8c7c8231800089878000857a889480008000823180008aa08aa0800080008e2170607f738000868880008bb8800088d978307d1b800083e880008c8b800086bd800081038000800080008ed7800084727d1b84eb)) (.leaf 5759 0x800080008ccd8ccd800086158000839d800083e8800089e288b5890080007fb57cca849a7c188a6180008bb887857bcd7cfd88b57c1888ab80008cef851f78307c1887d080008bb880008a9f82f778587c188b2680008661800088b884f77c4080008a00800083e88000886f8897802880008bb8800080008ac784d0800085f7800083e8800088997e45822d800087d08000849a86df88e580008518800083e8800088b57a4285fa800087d080008000800085ca80008a617830890780007c1880008b26800088ab800086b77bf77bf78000861880008bb8800084d074697fdf800087d08000866180008487800083c780008a008ae883e8800080e87fdf87af8000849a7c1887d078307e4580008bd0800088b5800084b179608130800087e87dfa85ca865d865d744883e87ea0867080008b26800085fa857f851f71c08040796f852780008a61780886b780008040744883e87cf388ab89ad89ad7c5880408000861880008bb878cf809f7830841080008b268000866180007d00800087f8800088b5800080007c187e4580008f84800085ca800083e8744881308ac78b9c7f6e8b26740483a48000800083cc87b48000852786c3865d8000851f707c85dc7c188000800085fa7f0f86b77c1885dc7587852783ac8a618000811b7e0c85dc80008b26800088ab78307cb7800085f7800087d080008bb882f77918800089df7c1885ca800084fd7c18800080008bb880008b2678307fa1800083e87d6587d07830852780008c2378308000800085357c188000800083e88000851f7b278444800085278353865d800086b773ec844480008b26783085fa7f0f811b80008444800087d07ac18a617b847c228000882c80008991800088ab87d078307c748c148000800080008000800080008000800080009182800084fd800083e87c187c18800078309e4f783080008000a61f7830800085277c1883e87c18851f783088507f6e8b26800083e879ee87d07de37de3800087d0800088c982f7841b744881cb80008991800087d07c187f6c800085b38000851480008bb885b37c188000899b7c188ac77c187c18800083e87f0f8bb878308000800083e8764e85ee792187d0783086df794584fd783083e87dfa83e878308b2678308298783087d07f0f80f1783087d0783083e87a5a8bb87a367f0f7dd98991774985dc783088037a4d7f0f7d44851478308b207830835479fb82f7800083e87c188bb878308000800086df8000800080008000800083e88eaf89b280008ac77c187c18800089d68eaf85ca80008bb886df8ac780008dbe800081e2800087d0800084fd80008bb886df7dfa80008991800080008000914586df7ba980008514800087d080008beb86df7daf800083e8800089c48000873c88d381978000800080008d18800083e88000857f)) (.leaf 5954 0x8000800080008dd1800083e889718589800083e88d788990800088297e1281a17d608530800088fa7c188b5f8d007db9800088ee800087d07c188cb38a6c79d17c1887d0800089e87c188ca4897278e680008acd7d2584f580008ab187807cce80008aa8800083e8800087fc88b280b680008e2080008000800084848922849e800083e880008b8a8bb880007c1887d0800085307db989e980008441800083e887fb88ee800086dd7fa7877778308000800087d07d428a8f829088cb80007c1880008acd800087d0800088bc78307be97b0886c07e3089e8800086c97be97fd17ec88a80800084f580008414800083b980008b1d800083e88000809c7c1887a1800085307fea8bb880007c18865a8a42800088ee783087a2788980598000865a800087d0800089718000838f744882727b2d8acd7f0d86dd832684fd7aa2809a800082d8800088fa7bea84d47c18821180008a80783087d07b1182e17a41821178308735800089e88000802c800085f97c188bb8800084f586957cb4800089e17d3688ee80008a6380007b02800088ef800087d08000894e77d7811d8000850780008acd800087a278307fa77448819c74be7f6680008971872c84fd7c18819c80008a80715386dd800084497db4819c80008735800088fa744882af800084647c1887d0800087d078307c447c188b5e80008859800089e888e978cc7c188c347c1887d080008ae77c187eea800085a180008acd80008a6380008059783081b9800080008000894e755b7bbf800080237c188a80800087a285e984fd7601802380008735783089717ca7844980008253800083e8800086dd7fce83b6769b863b8c028859783088fa7ba07bcc80008a2380008937800087d0863b783080008e0b800080008000800080008000800080007c18807680008ae77c7183e87c5387fd7c188a8080008a637e4a7e4a7d9f84157f6587357dac894e7af184fd800081c2800083e8857c87a27c188449766e81c27b24885980008971800083b679f281c280008937800089057c187f888000857d8000860c80008bb87c187c18800089657c18845e7fd283ba800083e87c188b4278308c007c187c18783087d07bea875a783087d07f2f8ae774eb80007c1883a0744880007ac38a63795787ea800080007d9588597830894e783087467a6d7e557d7f8937783087d07830879e7a837e9d7e3c860c78308b407830837079c58285800083e87f0d8ced783080008000866d80008fe880008000800083e8875a800080008bb8800083ba80008bb887d07c18800080009f127c18800080009b2a78308000885980008ae780008bd2783078308000893780008a6380008b2e787a787a8000860c8000894e80008b8677e67c62800083e880008bb8800087587c62804a8000800080008f28800083e880008432))
def tree_w_28 : Tree := (.leaf 6802 0x800080007dca8d2e800087368d64862e800083e880008b1e7c188945800082468000859680008b4880008b5689b47e5e8000897d80008ae780008bb8862e7a76800088f080008bb880008bb885ea7a3280008a10800087d088b18a9880007e1a80008cd8800083e8800087d08000820280008bb880008000800088f0800085ea800083e8800087d07f66834e80008a417dc68596800089468000855d800086598000897d78a287367f9e876e80008271795088f08000876080008bb878307e898000895580008ae77d4287d07c147e86800088f080008bb8800086b0744c7f3a80008bb8800087d0800083e8800083227c188da9800083e889c781f77f3a870a80008596800089df74e27f6680008bb87dc5897d800087d0855d8175800087d0800089a28000859a8000876e744883e875cd89558000845a80008bb88584812b744885087f908760800085128000812b80008bb87b478ae7800082c8800b812b800089c180008bb88af280007830851380008bb8800087d0870a7e0f800088fb8000897d800088117cf17cf180008c13800088f08000889d779480d98000882b80008955800087d079d385297c738443800084fc7448859a931d8bb873ed844380008bb88000845a7c1885127f3a8443800085d974488760800082c8795284438000888a80008ae77b697f51800087d0800088fb92c28bb878307a2780008bb8800088f080008b0e7c187ec4800087d08000895580008811800080d9800087d07d2c84fc8000889d7c188529800087d0800080008000800080008000800080007d3085008000859a7c18851280008ae68000888a7830845a7c1882c87f2e8ae6800088fb800087607c187f5180008ae6800088c480008ae786e77c0180008ae680008afd800082fe7c18817380008b24800084fc80008b0e7c18834c8000873c800087d0800088117c18858b744885257c1885007ce5889d800087d0800085257cd2888a800087d07c188512764c852580008a068000859a7c1883e87f3a870a800088c4800084f37c188339800089a28000854f800087d08af27fe980008d8a7c1887c4800083e87830855b8000898b800087d07b2e82fe77da86df78aa85a3778684567f568b0e783089737ca581bb7830888a78718811800087d07b118000795b88fb7830889d783088fa800080007d0c88c4800087d0783087d07675822d7d7f854f7830880c783087217dd38615800083e87c1888db783083d1800089fd800087d080008000800089438000897e8000864d800083e880008ac7783085968000888a800082fe80008d5b7c1881ae800088fb80008b0e800087d07eb97eb9800088c48000881180008ce2773d7cdb8000854f80008a7680008bb87f147f14800083e8800087d080008b09783082fc8000800080008bf4800087b9800086e4)
def tree_w_29 : Tree := (.leaf 6000 0x80008000800089e6917289a27c1883e87f47832f80008a58800089e880008000800087d080008bb8800087d078307c188000892980008a7080008ba77830783080008bc3800088fd80008954795d795d80008bb8800086a38e1187d077037d4580008abc800083e88b87879f7d45812d80008d4780008000800085158a2985158000832f7c1886b18d9085ba800087d6800087d0800085b180008600800083ee87d0892978308670800087d08000800680008bc3800087d0800087bf78307c1e87d08ba780008a708000856c78307bed7f048abc800088fd7b6983e87fcf7fcf8fa0895f800086a3800083b7783083b77c188abc800083e888cc812d8000879f800087d0800083e88bb881d27c1889087d718929800082c974488218800085207c238bc37ad582a583e887d07d50813886c08b69800084747558865b7c18813880008abc800087d083e883ab744881387a2785df7ad08a7080008339800083e87c1886d4800088fd80007fcf800087d0800087d07ed386a38ce57d457c188bb8800089298000866780007dea800089f580008bc3800083e8800081b87830860d7f7c8b697c9c80847c1887d0800083b480008abc778a82a58000865b80a683b4800085df78308474800083ab7c1883b48000866d7c1887d07a7481957c188577800086b580008a7087d07ced7830895f800087d07d4588fd86a3795d80008d4780008bc3800089347c187e91800083e878648b69800086677dd081b8800083e8800080008000800080008000800080007c1885df783080848000865b80008ab28000866d800082a5783083ab7b128ab27ee586b580008474794b819580008ab2800087d07c1887d083e87d1e80008ab28000885180008a70800079fd80008ab280008b69800081bc7baf7f9780008ab4800083e8800089347c188388800086cc7c1885df7e978667800087d07b8983597e9d866d8000873e7d7b866c7c1883597c1886b5800081a380008bbf73d38359800088d37cbe84c47ee5857d7c8d845d80008851800085d47c188106800088458000858e7c1887d08a127de580008c2d800083e8800083e87830837f800089f37830883979ec81bc783087707e44860b750f84487d7c8934800087d076048223783086b57830866778308a5480008000783087d07f6e873e783089f878c27e6a7c9988517830858b783089657b97802f7dbe858e783088ac783084ee7a728417800083e87ca489bc783081cd800087ff80008c218000800080008767800083e880008830800083e880008b587c18800080008a9d800081bc800087d078307c18800087d08000893480008e3c7830783080008851800087d080008de07830796f8000858e8000873e80008d4d78307d57800083e880008973800088d67d57813f8000800080008c94800085b580008527)
def tree_w_30 : Tree := (.node 7 (.leaf 5837 0x8000800080008cd38000861289fa83e8800083e880008efd800083e883e88000800087d080008a327c1888b288b27c1880008a3280008b508000891a814a783080008b5080008af37c1887d0847178b97fc48b7c876886bf800087f180007ca180008bb8800083e8800086a4872d808980008d5280008000800083e8897a8471800083e8800088eb8000822a800087d080008952872d88eb800080a8800083e880008a32800087d07c1884ca7830800080008b5080008a328000853278307c1880008b7c80008b50800083e87c187c18800087d07f3b8af380008409783080008000896a800086bf783082bc800083e880008b15800083e8800080007c1887d0800087d07cbe848e8a6f7f9880008ad780008a3278308503872d80a8800086ef80008b507f5b872b7cfa80e27b37830780008b7c7ee386b38000838e744881107c1883e876aa8a3288b283e87c1881f18323896a80008b5074698021800081f17f55872d80008af385e67ed47a2185d980008a35800086bf85d97c18800089c17e7a8a328000800088b27f9880008d027bb08b50800081ba7c1880a88000891a80008b7c7c1e827c800080e275b385537c1883e87bdf86f27c18838e8000855385d1896a7c1886b375a4815c800085538000872580008a3280008021744885538000889f7bb08b5082dd7aec800087f1800087d080008af38409783080008bd980008b508000872d84508156800080008000800080008000800080008000800079d481a47d2c81ba762c882e80008b417830896a8b15827c7c18838e783087597c188725783086f28000815c800087598000889f7c1886b37c1880217ba18759872d87d080008a3278307c18800088b2800088ac80008b5078307830800087d0800080008000853a872d853e80008c557c1881a48000872d800085908000886d8000896a800086f9800081e4744884857c1887257c1881ba7c18862c7c1884227ce7889f7e8d827c7c18878f80008422800087d0800086f27c1883e8786a8422800088ac7c1886b3800080008000876e8000843580008bb87b8a7b8a80008b567c18858c800083e8783089268000843378308bb87d6a853a7dc085907493804b783089d47b75872d783085cc7c1880007830889f7f2986f978308a1478637d20783087d0783084fc7830892c7f5d80d57cf488ac78308549783087d07a9981087c658435783089bf783083e87b2784f0800083e87c188a9b78307f72800088d880009ab58000800080008d0e7c1889bf80008bb18b1583e880008590800081a480008a228000853a800089b479d47dbc800087d08000872d80008dfc783079d4800088ac800086f980008d147a147a1480008435800088e480008bb8764c7dfc800083e880008931800087d07dfc81e4800080008da78da78000835a800085cc) (.leaf 5628 0x8000800080008aee80008725800083e8800083e880008e2b800083e880008000800087d080008bb88000865b82737c1880008bb880008a4f800087c47ff4783080008c8c8000885a800088e48000783080008aaa8000856f800089cb80007c1880008bb8800083e88000865b865b800080008e2b80008000800083e8800083e8800083e8800087068a43833d800087d0800087d0865b8964800080df800083e880008bb8800087d07e8b82738000800080008cd480008933783083dc865b7c1880008aaa80008a4f800084fc7c067c06800087d08000885a800085e3745a7fee88bc8a437d9f856f80008273800083d67c188a55800083e887d080007fee87be800087d0800084a8865b7f5580008a2e80008bb88000831e865b80df7830864680008c8c80fe849d75bd82738000825e80008aaa7448865b8000837282738184800087bd75ab893377d08388800081848000865b80008a4f768c8244802f830e7c18866d8000885a80007e8b7c1888a9800089978000856f80007c187c188ade80008bb880008000865b7e8b80008bb87cec8c8c800080c07c1880df800087d07ef28aaa7c07830d800082737bc285d1707387bd8c4f84fb7f8a83727a6f85d171d583e88000865b80008388800085d1827384b48000893380008244744885d17c6a85af82218a4f80007aa3800089b9800087d07ca2885a8000783080008da180008c8c800083e8800080008000800080008000800080008000800080008000800087bd7c1880c07aa383e8800089978000864d7c18830d7c18837e78308923800084b47e8b849d78308388800089238000843a7c18865b7830824480008923800087d08000893380007bd67d6b892380008839865b8a4f8000783080008b4480008000800087d0865b800080008ba07fed87bd7e9f804480008643800087b8800083e880008674800087d076bb83d07ce484b47c1880c07c188766800083a97c18843a7c1883d78000865b7d4e83a9800087d07c188567800084317aa383c2800088398000865b84e67fbe79a587aa8000851e8000893380007c1880008b9280008ba5800083e870607ab780008bb86eeb8018800087d07e73864379bd87d0783086177830804478308bb87e8b83e87830843a7ea4867478308b4e78188000783087d0783083e878308a437e8b80007c818839761a85aa783088197c5080007d4e851e7830894f783083a6796d83e8800083e87e8b8a4378308000800087d0975d80008000800080007e9f95fb8000800089ff800083e88000864388147c188000865b800087d080008fa0865b7830800087d080008044800095b7865b7830800088398000867480008e2b865b79248000851e800087d080008c01865b7d0c800083e8800089928000878e800080f48000800080008d37800083e8800084dc))
def tree_w_31 : Tree := (.node 59 (.node 6 (.node 57 (.leaf 5282 0x800080008bb88bb8800083e880008502800083e880008b7d8000874d853d7df0800087d07c1887d080008afa85027a087d2088d88000870180008c9984c9783080008bb8800086a980008d5782418000800088be800084b280008a0185027d327ee08c348a09886d8000888c8000832c80008bb88000800088ea83e880008502800083e880008bc6800080007c1884f4800087d0850287d0800083658000810c800088d87985879583ad871280007d2480008bb87c1886fd800088b1811a793c80008886783087018000896f80007bac8000884c7af186a98000861982417f94800087d0800084b2850284a48000837c80008955800083e8800080007c188764800087d07c18889b84377c2a8000880d800088d88cd287de78307f7d7830846f80008bb8794a85838000832a7c18803d74fe88868000853d7a75862d800080b2800086b085dd86fd7b0086b87485803d799a87887f318701807e82317c1883e87830856d800086a9850280bc800087d0800088207ce284b278307c188fa08bb8800088d8800087d080007c2a800087d080008bb8800086e97ab47e19800083e8800088867d3f850f7c1883327c0a83da7c1886b07d4885838000862d7a7f8241794a866c8000853d800086b87c1882418000856d800086fd811a820e74488629800086bc8000870178307cd480008a11800087d0800086a97830783080008df98000800080008000800080008000800080008886800087d07c187e9c800085b0783086b0800086e97c18832a783083df8000866c7c18850f7830862d7c1882f98000856d7f5285837c1886b879f882f97dd286bc7716853d8330820e7d498519800087d0800086fd78307cd485028901800087b9800087d07830783080008ce980008b80800080007ed47ed480008a4e800086b0800085087c1882847e6b86668000866c800087d07c1883e8794a827e7d9d856d7f1986e98000862d78ac821f7d3286bc7c18850f7c1886b88000821f7ee687d07c1885837c1883c57e378389800087b9800085788000800078308771800082ee898c8ae57b757b7580008b597c188a1c800083e878307ed4800087ca78308a54783080007830866c7c1e83e2783087d07d388508783087d0782a7ffa783086bc783087d0783089347ce27ce2794a87d0783086e9783089017c187ce87c0187b97830850f783087ad7961802c7b1e833a7830896b783083e87a438414800083e87d32896078307f5d800087fc80008e3c80008000800080008000866680008bb8800090ba800092247830827e80008a548000800080008bb87e967e96800087d08000850880008d1c78307aae800087b9800087d080008ce978307830800082ee80008a0680008b9578307c18800083e8800088ea800087d07c1880008000800080008d5380008366800083e8) (.leaf 5716 0x800080008e398e39800083e880008432800083e880008bde80008644868e804a800086db7ed1875f80008bb880007c62800087aa7d2e88e680008cd085c478f3800087e780008bb880008a5682b580007f308a8b800087d080008bc983f9783080007ed39e237c1880007c189b697c188e83926b80008000800083e880008000800083e880008bb886b38000800086b3800086db80008a518000825c783082cb800087aa7a6587f6800087d0847f7ee37c2f87e7800086a1800088e882b57ee380008700800088e67830866e86b38000794d7ed380008bb8800087e1800083e880008e83800087d080007830783087d080008bb887d07c188000800080008e837f0b86db7fd987a987d07c1880008bb87fda87aa783087d080007f09800087d0800087e78e83869d744883e8744883e88000895e79e3840e7d3088e8800080007ee38000800086a18000841578307ee3770a8a92800088e688f683f977137ee3800088ee80008bb877d67dc6800083e880008bb8800087d082cb7c18800086b37c1887aa800086ee7c187c1880008ba3800087e7800087a97c187f09783087bb7448870080008799800083e882cb83d37c1883e8744886cd800088e8800082b680008a927c1883ef785d8415829e82b6800088ee744886a1800083f982cb82cb80008bb887c988e67b027b027c1886b3800087d080008bb886b378307c188a9b80008000800080008000800080008000800087007f1e86ee7c188095800087d07b2386db800087a9800083e87ae483e880008a928000843b741b84d3800082b4794e88ee8000869d800084157c1882b480008bb8800083ef7c1883f9744882b4800087d08000871278307e918000869c8000890c7c1888e6846279de80008a848000882d800080c1800083bb7c1889aa759a8445800087d07c18847d800085c280008a92800086ee7b2a82fa7be981da800088ee7c1887a9800084d3785f80e980008bb87adc843b800085777b5280e9800087d08000869d7c1883f97afb82f88000890c800083ef800082797ee386e0800082cb80008afa86b37dc680008ac87c18882d800083e87beb83bb7f10868478308a9278f180c1783088657e22829c783088ee800087d0783086e277137eb478308bb8783086ee783087a37ace7c0a783087d0783087d07830895f7d547d547d54890c79bf843b783087d07830813c7afb82cb78308803783086617c188524800083e87c1f87b1783081ae8000890c80008bb880008000800083bb800086e080008cd68000897e8000926b800083e880008bb8800080c180008aca74487f10800087d0800087d080008b8b7b287b288000890c800087d080008d4778307830800082cb80008bb880008bb87c187c18800083e88000882380008a49783080008000800080008beb80008596800083e8)) (.leaf 5235 0x800080008ca28ca2800083e8800083e8800083da800089048000879487948000800086938ca289f8800087d078307c188000894c80008956800089a181d1783080008bb880008bb880008f9f7d02800080008735800086c18000885984d27e24800087f2800083e87c18868c8c80820c80008a9780008000800083e8800085f47ff283da80008b3885618000800085617ec38693861088ba800083ac800081797d94894c8000851c800083e87f6f7d9180008bb87da18959800085b97f6179a97f65834d8000895680008bb77d9d7c187c7a844a80008bb8800084718089800080008725800086c1800082a4800083e87c1888ba800083e88000800087d087d0800086938000893780007cad7c1887fb8000894c7830875080007fc483d7841380008bb87a2485b17b0f82df8000802b7c18834d7448821e84d285b980007d868000844a8359895975c2894a7c187d867f558725800089567dae82b478308144800084d280008bb878307ebc8000852c80008886800086c188ba7c187c1889148000894c800083e888ba7cad7c188a9180008bb88000857a78307bdc7c1887647c18834d80008368791a8afd800082c173e6844a7be185b1856b85b9800081e6744887257c18821e8000894a84d281e6783080ea8000895975ff82b48703830c800087d079b68956834c7c58800086f4800085ae80008bb8830c783080008adc800080008000800080008000800080007c1883e87c6c83e87c187c1880008bb88000844a78d8857a7c5b82df800087d0800087257edb82c3765882bb800087d07da87da8800085b18000894a706087d0799e87d07d4c821e7e4982b4800087d0800085ae7830895984d27d9b800087d0800087348000895683e8783080008bb87c1887d0800082a9800080ab8000894e8000880f800087d07b457f2d80008566800088467fac83e87ed386c776b4817e7c187da88000857a7edb84d27a408096800087d07c1882c38000894a791a80967dde85ae7c2485b1800086137b30830080008734800084d27c188183800086e88000827180008b197c187c1880008ad07c7a8bf77c187c1878db80ab80008bb878308c2e7ad982a971337dcb800087d073a27c18800087d078308aaf79c085dc7aaa87d0783083e8783088ba7a888000783085ae791a857a7830894a7c1880007b7c873478308343783089fb79b680007aa18271783088ae7830856b7a9283e8800083e87d0288ba78308000800087d08000901680008000800080ab845c800080008000985a7c1880008000985a7c1880008b02800082a980008e9784d27830800087d0800087d080008ca284d2783080008734800087d080008d3284d2783c80008271800087fb80008de384d27c24800083e88000872b8000895388ba800c8000800080008c96800083e887dc83f4)) (.leaf 5965 0x8000800080008d19800083e88a33864b7f6d83558c2889c5800087d0800082638000842380008bb8800088f787727e7b8000888980008a66800089cb845e7a93800080009f1c800080008000974c783080008bb8800087568000882678307c188ede8f02800083c47cb684868000800080008b7080008000800087f48bdc83e880008355800089ff89f98000800089f980008423800089318d5483e87a5986118000888983f7878c7be6850f800082298000800080008b75800085e376078229800087d089d28a66760a8000800082297f628b1a783080008000843e7e4183e880008788800087568000809e783087d080008bb87fdc83c487d07c1880008bb88000842380008aae8b947cc47c188bb87cd188897f0086d080008024840c87d07c18800075a98931800083b6800087ba83c483e88000878c7448841e800087ba8000873277ed8b757ceb7ceb7c1887ba8b3e84d680008a6678868056744887ba800087d0884a800077927cb680008ba28000883c87ac87568000783080008f8a80008889800087d07c187cc480008a307c1883e88000887d891080247ab4866c839283e8800086d0747a83b68000866c70fe8391800089317c4e841e8000866c8b9484d68000878c7c187eae7060866c785483e880008b7577f87ffb800087f48000883c7ac68a6678ce78ce80008bdc7c1888cc800083e88a987ad480008fc480008000800080008000800080008000783083e8800087d08000802480008b717fa983918000887d800083b6783087897c1884d67c1886d08000841e7c1887897fdc83e8800089317c1882aa7c1887898000883c7830878c7fdc7ffb800087897f7088cc80008b757b3b7b3b800087d0800088ff80008a66842f78307fb98bb8800083e880008136800086777c188bb8800083a1800087d07c18840c800087d07c18851e800087d07fce8677783083e87c1883e87cc5887d8000860b7dda81c27c84883c7c1886d07c18867e835881c2800088cc800089317c18838d7bf481c2800088ff800089807c187f237c3c85aa8000865180008b75896f7bf47c1889927c18842f7fb983a17ea786777d9589067830890679668136783087f47ea7851e783083e8800087d078308a5f780c81367830883c783087d0783089f37fdc7d4e7da488cc7830887d78308a667a687b9e7d4788ff78308889783087757abc7e507e81865178308bb87830830b798c8238800083e87c188d6878307fdc8000862080008cee8000800080008677800083e8800087d0800083a180008bdc7830800080008bb88000813680008e477c187c18800088cc800087d080008e8078307830800088ff800087d080008e4e78307830800086518000898780008b5d78307c18800083e880008c71800086f3800080008000800080008fa08b9483c47c1883e8))

def cert1 : List (Sq × Tree) :=
  [(20, tree_w_20), (21, tree_w_21), (22, tree_w_22), (23, tree_w_23), (28, tree_w_28), (29, tree_w_29), (30, tree_w_30), (31, tree_w_31)]

/-- one evaluation for the eight trees: the geometry of the board, which every leaf of every tree reads, is then
computed once -/
theorem cert1_ok : cert1.all (fun e => checkTree .white e.1 [] [] e.2) = true := by decide +kernel

theorem ok_w_20 : checkTree .white ⟨20, by decide⟩ [] [] tree_w_20 = true := ok_of_cert cert1_ok (by simp [cert1])
theorem ok_w_21 : checkTree .white ⟨21, by decide⟩ [] [] tree_w_21 = true := ok_of_cert cert1_ok (by simp [cert1])
theorem ok_w_22 : checkTree .white ⟨22, by decide⟩ [] [] tree_w_22 = true := ok_of_cert cert1_ok (by simp [cert1])
theorem ok_w_23 : checkTree .white ⟨23, by decide⟩ [] [] tree_w_23 = true := ok_of_cert cert1_ok (by simp [cert1])
theorem ok_w_28 : checkTree .white ⟨28, by decide⟩ [] [] tree_w_28 = true := ok_of_cert cert1_ok (by simp [cert1])
theorem ok_w_29 : checkTree .white ⟨29, by decide⟩ [] [] tree_w_29 = true := ok_of_cert cert1_ok (by simp [cert1])
theorem ok_w_30 : checkTree .white ⟨30, by decide⟩ [] [] tree_w_30 = true := ok_of_cert cert1_ok (by simp [cert1])
theorem ok_w_31 : checkTree .white ⟨31, by decide⟩ [] [] tree_w_31 = true := ok_of_cert cert1_ok (by simp [cert1])

end Owl.Props.C19
