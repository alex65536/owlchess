/-
C19 capacity bound: LP-duality certificates (trees) for White with the king on eight squares of files e–h; re-checked by the
kernel in one evaluation (`cert2_ok`). Generated data; see Lemmas/Bound/Certificate.lean for the checker.
-/
import OwlModel.Lemmas.Bound.Certificate

namespace Owl.Props.C19
open Owl Owl.Lemmas Owl.Props

def tree_w_36 : Tree := (.leaf 6116 0x8000800087d087d0800089aa8000866a800083e88000885d8000891d800082827e3a860a8000888f80008ab1894b7e9a80008bb8800089aa800087d082827ab280008a7f800088447d4e8bc687d2795a7c1889b18000853980008bb888fa7d42800087d08bb883e880008b028000812a80008b9180008000800087408c538512800083e87c1887d08c2c836e800088be8000860a800087d080008535800084d680008bb8800084757d4c86c9791e80ee80008a7f8000888f893287d077427d06800089567a0a89aa800087de7d067d06800087d080008844800087d074488000800087a9800085398844871a800083e87c1888d4800083e88b288358800087d08000860a800087d074c27f8680008a8480008bb8800083e88000814d7ae4869c7adf8a7f800087d07dc582e1800082b4800089567c88845886a087d0757c8266800087d07cd7888f8000851e7ae48266744883c1800089aa7c1883e88844839b800084ec80008844744883328c2c8783800087d07d6985398adb7f7080008b6b80008bb8800088be7b9e7b9e800087d080008a7f800087d080747dc5800087d0800089567c0d83dd7c1882e1800087d0800080008000800080008000800080007f8b83737c1884587c18851e80008afb796881388000888f7b52832280008afb783d83f5800089aa7f4a7f4a7f438afb800087d07c8c884487d07cd580008afb80008a7f8000885f78f278f280008c1479b68956800088be85d07da58000882c800087d07ef987d07c1882e17d93856380008373800083dd80008b3178a4856380008138800089a07830851e7f8c8563800083f5783084587c188a34783085638000871c7830888f7c187f4a800088ef80008844800089aa89de791f7c188cd780008b5d8000844f7c187cda80008b5d800087d08000885f88448040783087757c18839a800088be7c1887e27c1883ab7c1881387d1f87d080008b317c1883ab800083f57c1883dd8000851e7bbd83ab7ed8871c800089a07c1883227c36840680008844800087b27c188000800087ee8000835080008bb87c187d078c2c8bd6800087d0800083e8783080c280008b6a783087827c7f844f783084287c2587827830841c7ca7885f783087d07bfd839a783083f5791e88be7f798b31783d800078a4871c783087d0783088f8800080007c8c8844783087c57830870a7c18804e7b8083507de889a0777a8332782284298000834b7c188b9a783080ef8000881180008b6a80008000800084aa800087d080008804800083e880008810800083e8800087dd8000844f80008bb8783080008000871c8000885f80008b3178307d3880008844800088be80008ce078307a028000835080008bb880008af288447dea7f63834b80008bad8000871a800081d280008000800089a0800084d78e4485ba)
def tree_w_37 : Tree := (.leaf 5411 0x80008000896b896b800087d083e883e8800083e8800086ed80008a4d896b8000800083e87f498b01863987d080007c18800088e27c1888597dac8bb7863b78307c1888b88000888380008bb883e87830800087d0800085dc80008b5f85837c187c18896b800083e8800087d08000800080008bb88000800080008583896b83e8800083e8800083e8896b83e88000893b800083e8800085838000866580008553800088e27f1d8305800087d0799b816b800088b880008719800087cf76c57d83800087d080008859800087d0799b7d297c1885837ccb88838000877780007fa7783087d07e0c85dc800083e88000838f80008829800083e88cf9819b7c1887777c1883e880008777896a8000800089c3800088e2800083e87448827d783085db800088b874488219800087d080008282800087d0774980a48000857c7e9a82827f4a83327ffa87147e6e863e78308282800083e87ca188597586838f800085538cc4844180008883783080007830885e8000854e800085dc76957db380008c467d2a88e2800087d5846b8083800083e8800088b88000865e7c187ef3800083e880008000800080008000800080008000854b8332800082197448857c7c188a5b7ffd83e57a9e80a47c18863e7ea38a5b7ad482a4741a86e58000813e80008a5b8000854e8000885979397d2180008a5b8000882d8000888384727a1780008a5b7d0088b8800085dd868d783380008e5b800083e88a7887d57b0b7ef378308a737b3c83327e8e865e800083e87c1887aa783083e5800084178000857c7db387aa7c1882a4800082197c18863e7a5787aa7d7e854e800086c67830813e800087d08000882d800086e578307d21800088ef800086db8000885978ca791780008cd7800083e8800087d0871d7c1b7e658d507cf48580800085dd8000805d80008968800083e5800087d5800083e875e385807c1882a47adb865e8000857d7ef085807c18854e800084177c18863e7d2685808000882d7c1884678000819879cb8580800086db7c18856f80008109800087d0896b84cf8000879c7c187cff80008bb87c188968800083e878308003800087d0783087cd800087d07588819d788b83e8783086337a2585dd783083e87bbd8000783087d0783587d5783089657c187c18788d882d796d86b778308a267c187c187b2386db785f8417783085807a9184b17cff84cf7830884f783084f178e48314800083e87c188957783080e7800086fc80008bb580008000800083eb8000858380008a1b800083e8800085857db3819b80008bb8800087d0800083e876957db38000882d800085dd80008d4d79cb79cb800086db800087d580008e0e78307865800084cf80008a9f8000896878307c4d800083e88000882d800088d97c4d80358000800080008c37800084cf8000841d)
def tree_w_38 : Tree := (.leaf 5634 0x80008000800087e980008b238e1982f6800083e88a4a89848000898880007f0e800085c9800087d07c188d438a4a7b268886868c7ddc899480008db280007830800087d080008bb88000898b827a78ef8000897b8000862e8000898286597cd780008898800083e87c1888c3800080bf80008af9800080008b098662800084a7800083e8800082908000873b80008850800085c980008401866287d0800084688000868c8000859c8000895b74488080800087d0800087d0800089ca7c187c98800086c1800089947c4285a380007c98783084b080008bb88000859a80008000800087118000862e7c1884db800083e8800087d0800083e88000827a7c1887d07df985c9800080007b83835380008ce77ad4868c78307ea8800087d0800088ff800087d0744883a980008573827a8517744886c17dcc859c7f2086f079b782b67f7b8363800087d080008412737282b6827a84de80008994744882d3800084be7c1883e880008bb8800080f37cee856f800087eb8000862e86627e92800089578000868c800088ff78c5800080008000800080008000800080008000800080007ef186c17ac07ea87d6a853a7c188b6080008363800083a9744886f07c1888077c1884de7c18859c7c1884127fa88778800083e8744887d07c1882d380008778800087eb800089947e927d0b80008778800087d080008bb880007aaa7c1887d0800080008000893d7c18800080008bb8800086c1800088ff7e727e72783087d07c188363800089777675837f800085a97c1884de80008000800086f079f185a97c1883e87fc183a97aea8412800085a9800087eb77d8859c7eeb82d3800085a9800087d0800087d077f67cd178308991800086c57c18899485a9783080008d79800088fe8000846e75e67cde80008bb87c1886838000893d7c187e72800087d07c18859d800088ff8000837f7aaa83e87c1883e880008977800086f075b681b37c3387eb7c1883e87d46863e800081b3800087d07c18877780008508776981b3800086c5800087d0800080007e92859b800084af80008bb87c187c18800089837c188a6b800083e87aaa80c6800086e9783089857c9e846e783080007a248301783087d07d85893d783085dc793d7f19783087eb795f88ff783088dd7c3b7c3b783087d07dbf897778308a2679037a957b0d86c5783087d0783088f07bb57e7d7cdf84af78308b5f7811838f7a028265800083e87c708bb8783080008000866280008d6d80008000800084ae800083e880008e32800083e8800083e87c18800080008bb88000846e800089c478307c18800087d08000893d80008cc578307830800086c5800088ff80008e0e78307830800084af8000897780008cd87b037b03800083e880008bb88000877778307eeb8000800080008f47800083e8800082d3)
def tree_w_39 : Tree := (.node 58 (.node 37 (.leaf 5586 0x8000800080008cb7800080af891a886b800082c57c47888a800089628a8381218000826380008a2c80008c0a86327d39800087d07c18880580008cac800079517c1887d07d89894180008bb884c1790980008bb8800087d080008d77824a7cf180008937800083e8800087da800080d980008c5c80008000800084b5897684c17edd82c580008950800080af8000890e80008263800088cf8000857a80008526800087d0800084a27c8a882281d7813e8000872680008892800088c476f27d5680008af47c4d8805783087d080007b098000854f800089417830898f86327db380008874800087d0800083f27830819b7dae8b9a800083e8800080cd800085837c188263800087d07c1880af80008af0800087d08000856879c28192800087087b6e87267b7987318000845a7b50832080008af480008417815d86a2753580257be083b07e9988927c188628800080257448873980008805863285a77c1880ed800087b2800089418632800a783084d57e478860800087d085a17ce5800088bd8000800080008000800080008000800080008726800087d0769e7ea2800088397f3c8af479a685687c18845a800084517c1883b080008731863286a27448844f800087397419841782798628800084598000857e767088927f8b83737897844f800088608000898278267c22800087cd800087df80008941800078fd80008bb580008726800088457e067e067c18886078308af4800087c47ea27ea280008478783085bf800087d07830845a800083e8800087398000856882b586a273dd828f7830857e7c188731800086287f1282fa7e6288608000841778308373800085e7800087df800088927b927b927c1889cf800087e68a1a8805800078307c188db780008af48000828d7c187e0680008a4b80008632800088457c1880f87f0186637f698739800087c48000845a7729827b8000857e7a7a87d07c1886a2800081e1800088607c2185687e5886287c1881e1800087df7c188731800083737830834f800087e67cd787457c187f70800087378000847e80008a1e8a1a7c187c188b1f7c188a1a800083e878308000800087d078308a7d7abd828d783084e07bd583e87830859d7c8d8845783087f07a058000783088607c0c87c4783089967a867c18783f87df79ce87d078308a107c127c127c2e87e6783087d07830859c7a647ffa7cae847e78308a1a7830835879e483e27ef282da7f708b2d78308000800087ca80008e6580008000800083e88000838580008985800083e8800088c87bb57f9d80008bb88000828d80008bd878307bb5800087df8000884580008d7e78307830800087e6800087c480008df8783078308000847e80008bb88000898478307c18800082da80008bb8800087407c1880008000800080008e02800083e8800083e8) (.leaf 5446 0x8000800080008d0588418459800083e8800083e880008bb885a685a6800080007c18899e7c188ba8800083e880007c18800087d08000890e7c188c3988517830800087d07cef88a780008c9f84cf78307c1883e8800087d0898e8bb88000800080008a5f8a5f83e87f308700800080008d538d53800080008000840b800083e8800083e87c1880008d76845980008d057d65814d8000891d800081be8841891d800087d0783087d08000800085a685a6800083e87c1887c07c9988518000814d800080008000890e7a4888b77c18814d80008677898e88a7800087d074487e5985a6896b800087d080008318800080f380008c60800083e880008023800084db8000814d800083e87c89845980008bb8800087d07c1885a6898e8000783087d0783083e8800087d078308000800083e8783080007e6e863e80008851793f810f72ef8677800087c0800086008000810f80008741796e890e808183e87c18810f80008878898e88a778307f307c1884f78000885c800087d089027c3b7c1888df80008000800080008000800080008000800083e8800083e881be80007c18800080007830a0fe783080007830a4e67c18800087d0728b890e800088517c187c187c188741800088058000860074488000786c84907c0887c08192819d800083e88000885c8000890e78f57c0d800087d080008894800088a787f378537c188bb87c1883e87f1d83057dd681be80008c9b783080008000890385a68000800088b3800087d07c1883e8783080007d3f850f7830874187658000800088517672850f80008424800086137c18860079ee850f7d11885c8000863e78f5819d8000850f80008894800087c07c187cdd800088158000872b8000890e88f679117c188bfd80008000800085a6800081be80008c2f800087d0800083057dd6822a80008847800087418000890380008000760685027c1884247bff83cf7c188851800085027f92885c7c1880007b0086007f5c8502800088948000861381be819d744885028000872b7abd84e37c1880c580008873898e8422800087d07c187cf980008c5b7c188bb8800083e8783081be800083e87830898e7dd685a678308612783080007830842478308305783083e87c1880007830885c7d4b890378308bb87830783078f48894783087b7794889017bfa7bfa7b73872b783083e8783085857a9480007c528422783088ad783084ad79b483ca800083e87c1888cb783080e1800087b280008d7680008000800083e87c1883e880008764898e83e8800089fa8000800080008bb8800085a6800087d078307c1880008894800084e280008fa0783078308000872b8000890380008ce9783078308000842280008b9f8000896d7c187c18800083e8800087d080008895783080f98000800080008c95800084c9800083e8)) (.leaf 5939 0x80008000800092a380008079800084177f8083688bfb8aba800088e28000802f8b7b841d7c188ad480008bfb80007c47800087d080008b137c518bf18000785f800087d080008b7b80008bb883e87830800080009f037c18800080009b1b783080008c82800083e880008ab280007c1880008fa080008000800086ab87938000800083687c188bce8000807987fd87848000841d79cf8a80800084fa8000839c800087d0800086d2783088138793807e8000854380008969800088097fc3807e7830800080008b13800087d0879380ca7830889a80008b7b716f7e6d800084b280008bb880007c18800086ca8793889a80008406800083e8800082c380008c828793841d800088f580008079800089a9800087d08000889187938112783085c175a385438000896f8000842b7c1882c178308000744886d2800084217c1882c1800086f079c989697448841a89e282c18000885f7b738b1380007ef17c8084d07c36801e7fc38b7b744882e28f8288b880008bb87c18800080007edb8b7b8ca08000800080008000800080008000800080008543800088f578497d437c188bb87c1883e87db988917f0382eb7c1887d084e086f08000896f76fb82ec7c1883e87ca7885f831c86d27c18841a7c1883e87c18801e8000896978307cbb800083e88000893f80008b137efa7efa800083e88b7b88f580008b7b80007af37c1887d08b7b8543800089a47c187c1880008c348b7b87d0800089d47c187d437830884c7fc386f0800088f5783082eb800084647830885f80008891800082ec7f6f83577992801e8000896f8000841a7c1883578000893f89c986d279e27dca74488357879388f58000896978307e12800086c38000894580008b1382db783080008aab8b7b8bb88000857e7c187c18800089e57c1886f0800089a47c188019800085fd8000885f800089d4800082eb765d82157e9e83e87d3d88f57c1882ec800082157d87893f7f1f88918000841a7b4d814a7fc388f57c18896f800081b27c18831d80008945887a87d07f197f1978308705800085e18b7b8a4d7c187c1880008aed7c188a0e83ab83e8783080008000893d7830885f7dae857e783084017a45855575f385937dec89a47830868f7c44816d7830893f7e1c89d47830869b79d77d85799288f5783088f5786288027d487d487d8d8945783088917830859a7a667fc37e1185e178308aa67830830179e283ab800083e87fc38bb8783080008000879380008d7c80008000800083e8800085cf8000897b800083e8800087e97dff81e78000893f8000857e80008a7778307dff8f6388f5800089a480008a8378307a1780008945800089d480008bea78307830800085e180008bb88000898278307c18800083e880008c62800086e97c1880008000800080008f63800083e8800083e8))
def tree_w_44 : Tree := (.leaf 5643 0x800080008a538a53800083e8800087d0800083e8800083e880008a538a5383e88000856a7c1888b5800087ed87ed80007e7e8a3680008af0800083e880e57cfd800087d08000864e80008b0d866b7ce0800083e8800087d08000898b866b80c8800089277d36811e7c188716800084b08000898b80008000800083e880008898800083e88bd587ed7e7e800080008a368000856a866b866b800083e88000864e8a538a36800083e88000840574488266800087d0800088b5800083e87cb58000800083e87f388af0800087337f638000800088988000864e800085a374488182800085a3800087d07c18832e8000856a80008b9b8000811e80008000800089527d9a866b7c188bb880007c18800087d080008a368000840578308000800087d07c1887d07ab383e880008283800087d08000800080008000800080008000800079878157791588b576a0845a8d8f87a579eb81bb80008af0760381bb800087a5800087b37e7e876c80477f467fd587a580008a7e800087d080007c187c1887a580008a36800087d08405783080008bd5800087d0800087d078307e7e800087ed800087d0866b84057c1882837448855b7c18815775ad83e880008b718000855b78b181bb80008a9a7e1a845a8000855b781383cb800088b5800081bb7d8b855b8000869680008af080007b5e7830892780008a7e7c18864e8000783080008d0f7c1887d0800087d0866b7a9680008bd5800087d0800087d07a967e7e7c3587ed7830815784a286b279f98283800084057f7f83767c18840580008b717b33832080008aa9800083e88000845a751083207e9b869680008a9a783081bb8000832080008a7e800088b57bed7bed7b5086eb800088177c188af08303783080008ad3800087d0800083e8866b7e7e80008bd5800083e8800087d080008266783087ed7c1883e8800087d07e37864e7c7c84057c1883cb7ee286b280008b717bd1801d7c4386967c1884057c1885068000801d80008a7e8000854d800083e8744882588000881780008a9a7bb47f71800083e88000866b80008bb883e87c18800087d07c1887d0800083e878308266800087ed783087d07c1883e87830864e7ab38405783083e87c1887d078308a367ab3801d78308696783087d07bd18b717afa7c357ade8a7e783086b2783088ee7bed7bed7c5f881776cb866b783087d07bd17fb97e9b866b7830893577a182ca78bf83a1800083e87ee28a9a783080007fb9878980008bb8800080008000864e80008405800087d08bb883e880008a367c35801d800087d0800083e880008e1e78307c3580008a7e800087d080008b717830784d80008817800087d080008cd6794e794e8000866b800086b280008bb877127d36800083e880008a53800086b27d36811e80008000854d8d1d88ee83e880008506)
def tree_w_45 : Tree := (.leaf 5214 0x8000800083e883e8800084ac80008bca7c18800080008bb88000889888a6800e800087d080008bb8800083e880d67c268000878f800087d080008cc184be783e800083e880008af880008bb884be79c6892586357f8187517c18892a80007dae7c188877800083e8800086698000819680008ad880008000800084098986857e8000800080008bbd7cdc80c4800087de800087d0800083e884be84b0800083f6800088987c4587d0800083e8783e800e800083e880008a0c8000897c78227cee80008575800087d0800087d07cee7cee8000846f896f8af88000854273807fb4800086f080008751850a82817fb4839c800088d1800083e88000802180008784800087d080008bb8776c7cdc800083e87bd7878f787587d5800080c8800083e8800080008000800080008000800080007da5857580008415747b84f17c1885e37c9f808780008a0c787f83e8800085e385518551783087d07d72815a7a2b85e3783084e980008af8847c7e99800085e37d4889048000875184097c39800087d08000878f800085ca78f478f480008e11800083e88000896d78307ce078308a29744885758000842d7db7847b7c1886417c188087800087d07cee84f17c18871682e18551741b84157fb183e87e718641828282b776848a0c7c18815a8000864180008900800087d0793d7bbf800087d08000855d7f408af887f178517c188bb8800083e8800088a6783078307c188dbf80008710800086977c187ce0800089d7775a80878000896d8000847b7dc485ef7e9a85518000842d800084f1768485ef7ae782b7800087d07c1883e87d4985ef80008900800084157830815a7cee85ef8000855d80008a0c7c187d25800087d08000880a800087d078cc78cc80008bb880008af88000825f7b4f7b4f80008bb8800083e8800088a67c188000800087d07c1886317dfa85ca7ef4847b7c1883e8800082b77db5896d800084f1775a8349800089007c18842d7c1883e87cee83497d8d855d800087d0800083e8779183498000880a800084157c18810d800087318000828680008a0c7c187cb480008b197cee87d0800083e878307f378000896f7786896f7a8f825f775083087c1885877830859e7cee88a67830847b7830819f78308900783085ca783087d07cee7dc47830855d7830896d783087d07cee7dc47c52880a78308477783087d078cc800d7ab68286783087d0771c86137b7c83f5800083e87c4587fd7830809c800087dd80008d57800080008000831f800083e880008986800083e8800086f07c18800080008bb38000825f800087d078307c18800087d0800088a680008bb8783078308000880a800087d080008bb8783078cc800082868000896d80008bb878307cb4800083e880008811800087ca8000809c80008000800087d0800084847cb48484)
def tree_w_46 : Tree := (.leaf 5388 0x800080008000886280008a928ca98217800083e880008bb8800083e880007e2f800086fe8000884e7c188b7889547a47800083e880008b5080008da4856c78307c1887398954892080008c8380007830800087d0800086e380008a41856c7c1880008a9a7eba82a2800087d087d0800080008b5f80008000800085c589ad83e8800083e880008000895486aa800089937f2e86fe863e847a800083e8800085ab800083e87a9487d080008790830881c3800085498000884e8000899978307ddb8000846480008b507d3c889b7afa7cbd800086b2800089208836865975667ee2785b8777800086e3800083e87ee282ca80008bb8800082a286b28000800086b2800086fe80008b4c82c282c280008000800080008000800080008000800080007d798549840b8254783083c07c18870f7c94846485b187d0744885b17f3f83278106848b74c6884e8000850c800083278000841380008b508184828274488327800087d07d68895480348000800083e87e898a417f1386e383e87c18800087d0800080008000894a80007eda7c188ce8800085497c6587647f5f7f5f8000890074488464800087d0800083c07c5485188000848b800082547dd885b177f4841d80008413800087d07830850c7c18841d767f861f8000884e7f4d82828000841d800086597bb08b5078a67c8e894686d5891f88ff80008920800078307c4d8abd7c1885e08000882587077b2180008be7800084648000894a7c187f5f790d87ff76ac848b7f4787647fd883c0800084177c1884137ffd87d0800085b179b783778000861f7c1882548000850c79b4878d8000865979b487d07c18836c80008377800088ff8000884e7c187c8e800087308000867480008b50800078307c188b188000884c8000855487827c477dea8b25800085aa800088257c1880008000873d7c18846c8000894a7c1884007d9c83558000861f80008764800085b174db81d77c188659800087d07c18850c7d9c81d7851888ff7c1885a97c1883f97884826a80008674800087d07c188076800086528000844d80008bb87acd7acd80008a3a7d9c8992800083e87830802f80008763783088547d848554783083e87848837b777d856c7c6d8825783087e87a127f937830865979aa894a783a87d07c187d99795f88ff78308764783088297c6d7c807abc8674783387d0783087e17b0d7ee77c7d844d783089917830845e794f82cf800083e87c188bb878307eb5800086b780008c3c80008000800084177c1883e880008954800083e8800087d080008000800087d08000855480008bd078307c18800088ff8000882580008bb878307830800086748000894a80008c117830793e8000844d800087d080008bc978307d26800083e8800087d0800088467d26810e8000800080008d798000829d800084f6)
def tree_w_47 : Tree := (.node 10 (.node 1 (.leaf 5350 0x8000800080008d75800083e8800083897e7d826580008bb88000872878307fa1800083e880008a3d80008b077bb97bb9800085ad800089cd7d2c8c18783079558000864e80008a1c80008c4b783078307c1888de7f4d871d800089a584ea7b457c188b7e800083e88000865280007f2d80008de980008000800083e886fd8315800082658000867f800083e88000881a800083e88000898d8000834085468432854685ad800087d07830871f8000804a8000864e80008a078000883077e67c627c1888de800089cd7cab886379d879d87c18879680008a1c800085bd7c187d768d168a018000871d8000826a7830815e7d238bb8800083e8800080008000854680008000800080008000800080008000892e85ad800084e874487f58800088e07e7e864e7448866980008337800084f8800088de7bd784fe800084fc79cf819f7f1584c580008a078000847b7691819f852d87767a2d89cd764c82048000819f800087d080008a1c78307e8279cf8477800089518000871d84777c188000885f7c1885ad908786f27c8f7c8f7c188bb87830864e800088c480007d087c1887d0800088de754884e87b678337800083e8800084c580008669783084fc7c1883e87c1887767d6f84fe73de847b800083e8800084f3767f8a07800082047c1883e8800087ff800089cd78e07b4a783087d0800086e17e648a1c83e8783080008bb8800087d080008879783078a780008bf5800088de800086f285467d087830880d789b84c5800088c4800083377c18842578308776800084e8800084fc7cde838b7c1884f37e9986698000847b7af5838b800087ff783084fe7c188204800083e87f1186e180008a077c187cc880008736800087cb800089cd783078307c188b1e7d268bb8800082b07c187c1880008a66800084ff800088797c1880f08000867e800087767f1c86f27c1883e87a7182967c1884f3800088c47c1884fc7c0982327c4787ff800086398000847b76d28232800086e1800086697c188417798e8385800087cb800084fe7c1880b08000876d800082c080008b827b4f7b4f80008b557d7688e7800083e878308000800088177830892e7ae082b0783084d87ac6842f779284557cc18879783087d079828047783087ff783586f2783088857d707d70783086e1792488c4789a87d07c187d707c1387cb78308a21783087ff799381117af082c078308894783084987ab584f9800083e87c1888e678307f37800088e180008d1680008000800083e8800083e88000883d800083e8800088c07830800080008a66800082b080008bb87c187c18800087d08000887980008c6d78307830800087cb800087d080008bb879937993800082c0800088c480008be774487d7b887e83e8800090fe80008880800083e88000800080008c7c8000831f8000854b) (.leaf 5766 0x800080008d868bb8800083e881308518800083e88a87869f80008acf800081307fcb83b380008abd80008ace871b7d487d3688ee800087d080008c6885c87960800087d0800089de80008ca88000783080008bb88000851d8000899985b17c1880008b5e800083e880008740800080008e908e90800080008000840e800083e8800083e8800086b1800083e880008805800083b38b8387d0800086e77830841d800088ee800085b5800086e67c188035800087d07830871a80008b4f80007c4d80008a28783087d0800088c0848e7bce80008776800089de783085b180007f8180008aa88000851d800083587830836980008b278ace83e8800080268000875180008000800080008000800080008000800088ee7ee182c9803582ff800087d0800087d0800087d0756c82fe783083e880008a28800085b57448849882fe82127448868c8000871a744884d88eb6821278338950800087d07c18835482fc82128000873f7e2689de80007f7080f085fa80008b498000851d80007c3e7c1889e2800088ee800085697ede7ede80008952783087d08000891685a080368000856a7e708a287c1882c9800082fc7bc283928000868c783087d07cc884987c188392800089507c1885b57c1883ef7c188392754a861f8000871a8db48354744885f98000894e800087d078307b88800089e18000868a800089de861f785680008dc9800087d08000880878307af680008bb878308a288000856980007ede800088188000868c7d3e89167df082fc7c1883e880008950794f8000800084987c1883e88000861f800087d080008599744882fe8000894e744886e680008354800082fe7eba868a8916871a783078307f1686e680008bb8800087d0800078307c188ace80008a288eb6848e7c187c187c188bb87ebc86e680008808805a7fc8800087d07d9689507d9985697c1883e5800083e88000861f8000891680008498744882b97d96894e79b18000800083ef800082b98000868a7c1887d07c188573770182b980008bb880008ace7f16795f800086a1800087d08ace88157c187c1880008a897c188ace800083e878308000800087d078308a607cbe848e783083b07a8883e8796586b07c508808783087cd79c080007830894e78308569783087d07f1680007830868a7c388916783786e67b08800080008bb871a980007830895b7dcd83e8800087d078308bb877017b2e787587d07c187c1880008eb67830800080008bb880008e4880008000800083e88000845680008a98800083e8800087987830806e800089bc8000848e80008bb57c867c86800087d08000880880008e107830789e80008bb8800087d080008ace78307830800087d08000891680008d707830783080007c189f40800080007f169a6e78308000800080009686800083e880007c18)) (.leaf 5555 0x8000800080008e77800083e880008353800081c080008a6b80008a1c80007f6b800083e880008aec80008b5b86127b837c18849a89fa8ccf80008c1980007830800087d089fa8b1c7c188a968000783089fa8736800087d07c188a9480007c1889fa8a14800083e8800087b78000800080008c568000800080008575800083e87dd881c080008b1b800083e87d1f84ef800083e880008a8f80008634800081078000849a80008a6b8000877377297f3a800087d0800089a57830883180007c0c8000873680008ccf800087d7755b79d68000862c80008b1c7c1886ac78307dbe8000886e800087d07fe783cf7dbe81a680008aaf800083e88000818d8000858e800080008000800080008000800080008000849a7b7b87338000824c7fc88798783087d07ed786a779ee838b800083b08000873681f38a6b8000844974807fc87c9e846e800089a57c1f87d77be07fc87680862080008ccf800082c478308000800086c780008b1c74617fe7800083e88000886e800087d080007da5800087d07cca849a800089487c188000800087d0800087d080008ac686127f35783083e8800087368000834b76728384800083e87c18846e7c1886a77c798449800083e88000862080008a6b800087d76c787d517e2785f77a0589a580f57edc7d5185217b4086f87d2f8ccf80007ccb800085217e0c87d080008b1c82c679bd80008909800087d08000887d7c187c188000894e7c1887d08000894889fa7f35783085667606846e80008ac680008384800082fb89fa86207448884f80008449783082fb7a5a84397c1886a7800087d7800082fb80008aee80008a6b74487af477438566800085dc800089a578307ce48000894e7c18800080008ccf88e47bae80008d367c188bb8800083a880007c1880008a3a800086128000887d7c1880d1798986527c188620800089487f9c83e07abf826a7c18843980008ac67b6684497c58826a800086f87c1883577a5a88f98000826a800085dc7c1886a77c1880007e4283e886127c1880008bb8800080cc78308d168000875a7c188a7183e8783080008bb87e4289fa800083e878308000800087d07830896a7bd883a8783084b97a9a83e8783085427cc5887d783087c879ae8000783086f879a8894878e287d07c187c18783085dc7b268ac679ee8ce17830783080007830a1497ded80007c3a9f9678307f8a875a76e98689783084b478308000800083e87c188fa07830822a8000800080008de280008000800083e8800083e88000892a800083e8800088a188a1800080008a42800083a880008bb086127c18800085dc8000887d80008bb886127ba27c187c1880008948800090c989fa7f8a8000875a80008ac68000802283938372800083e8800081d58000889c89fa875a8000800080008a718000800080008b42))

def cert2 : List (Sq × Tree) :=
  [(36, tree_w_36), (37, tree_w_37), (38, tree_w_38), (39, tree_w_39), (44, tree_w_44), (45, tree_w_45), (46, tree_w_46), (47, tree_w_47)]

/-- one evaluation for the eight trees: the geometry of the board, which every leaf of every tree reads, is then
computed once -/
theorem cert2_ok : cert2.all (fun e => checkTree .white e.1 [] [] e.2) = true := by decide +kernel

theorem ok_w_36 : checkTree .white ⟨36, by decide⟩ [] [] tree_w_36 = true := ok_of_cert cert2_ok (by simp [cert2])
theorem ok_w_37 : checkTree .white ⟨37, by decide⟩ [] [] tree_w_37 = true := ok_of_cert cert2_ok (by simp [cert2])
theorem ok_w_38 : checkTree .white ⟨38, by decide⟩ [] [] tree_w_38 = true := ok_of_cert cert2_ok (by simp [cert2])
theorem ok_w_39 : checkTree .white ⟨39, by decide⟩ [] [] tree_w_39 = true := ok_of_cert cert2_ok (by simp [cert2])
theorem ok_w_44 : checkTree .white ⟨44, by decide⟩ [] [] tree_w_44 = true := ok_of_cert cert2_ok (by simp [cert2])
theorem ok_w_45 : checkTree .white ⟨45, by decide⟩ [] [] tree_w_45 = true := ok_of_cert cert2_ok (by simp [cert2])
theorem ok_w_46 : checkTree .white ⟨46, by decide⟩ [] [] tree_w_46 = true := ok_of_cert cert2_ok (by simp [cert2])
theorem ok_w_47 : checkTree .white ⟨47, by decide⟩ [] [] tree_w_47 = true := ok_of_cert cert2_ok (by simp [cert2])

end Owl.Props.C19
