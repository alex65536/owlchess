/-
C19 capacity bound: LP-duality certificates (trees) for White with the king on eight squares of files e–h; re-checked by the
kernel in one evaluation (`cert3_ok`). Generated data; see Lemmas/Bound/Certificate.lean for the checker.
-/
import OwlModel.Lemmas.Bound.Certificate

namespace Owl.Props.C19
open Owl Owl.Lemmas Owl.Props

def tree_w_52 : Tree := (.leaf 5478 0x8000800080008826800081998d408ba6800083e8800082648000875b89ae87be7e1585e58000800080008baa87b183d68000875780008b8580008000828a828a8000800080008bb880008bb885c67df680008648800087d080008b0285c67c4c80008a31800083e880008719874d803480008d6280008000800083e88804841c800083e880008bfc80007db1800087d0800085e57830843e80008373800087d07b9f875776ac7e7c800087c2800087d080008000800080008000800080008000800085c67be58b85800087d07c4b7c4b8000864986b18bb88000871a77457c4b7eba897a870c87d080008331800080eb8caa8c6f800083e8800081277d0383e8800085e5800087d0783079c980008de7800087577cb5848580007f8b800089ff800087d07fa7838f744f83ef822f86177df685c68000800080008bb8723e83e87bd983a980008b6376948634800080258000868a85c68b85744883327c1880258000888780008bb885c67f49783081de80008bb8800087d081de7c18800085c680008757800087d67830783080008e09800087d0800086da85c67c9b78308a217a0e86b980008485800083ef7c1886397448867a8000838f800087d081de838d7830868a7c1880008000863481de838d8000849f7fab8b637dee81d6788c838d7fae895c80008b857e477b61800085248000887280008bb8813c78308000890c800087d08000884c7830783080008d1a7a3a874e800087d67c187d1080008932800083e881de86da800083ef7448854a8000868a771a836f7bce87867c1883e7785c849f7c18838f800086347fff83e77df6895c783083e8800081d6800083e78000887280008b6381de7b247c18866d8000875c89ae8b85800078307c188a5580008b368000833f7c187c187c188ad9800085308000884c7c1880f87f5386f17c18868a7e2887d67c1883fd7fce83097fd4849f800086da80008786765282678000895c8000836f7c1886347a0e82677eab88727c1887217c18828d7f4b83468000875c800087d07c187f0c7c2b872e8000843080008b637abd7abd80008b167c188918800083e87830800080008865783088c87b6f833f783084e07ab6847d7830849f7c94884c783087e5799280957830895c7a0e87d6783087867c187cad7a278872783086da78308a1c7bff7bff7ba4875c783086ba783086757a8280007c60843078308b09783082f479c68339800083e87c188bb878307ea58000872180008cb080008000800083e8800084cd800087d0800083e8800088c889ae80e58000895c8000833f80008bcd85c67cfd800088728000884c8000878678307d228000875c800087d680008e04783078308000843080008ac280008a5d7c187c18800083e880008aa2800086dc783080008000800080008ef18000828d800083e8)
def tree_w_53 : Tree := (.leaf 5366 0x80008000800087fe8000821b80008add800083e88000800080008a19893e86f57f4c871c80008acd80008000830d830d80008000800089d980008bf885567f258000847d800088bf80008bb885567c02800087358000856580008b7f85567cdd80008888800083e8800087c1888680c580008bb88000800080008491800084ad800083e880008b2c7a4b7e33800083e88000871c80008416855685dc800083e8800080008000800080008000800080008000847d7830886980008810855680008000834d800089d9783087d085568000800084a0800088bf7830879780008000800087d0800085657ff183d9800083e8800088d5800083e888398069800087d08000871c800087d078307a4b80008bbf800083e880008744855681f4783087d778c5847d76d88290800089fa800083ef7c18834d800087d0788685ac7ba78377744882528000886980008540800083777c2783f7800089d9800083af74488377800084ed7d0788bf78307ff180008758800087d07d95856587c17c8180008b40800083e8800088a97830783080008cd68000847d800087d079df7fbb7d3688ee7448834d7ec1869180008612800085068000825280008290799e85ac7c1885067c1883f7800086b9798885407c1885067d1d84ed7f5e886984f3829a74488506800086e1855689d978307c09800087d0800087e6800088bf8451789980008bb87c1887d0800087a478f078f080008c92800083e8800088a978307fbb800088aa7e6a82527c1887d07e428612744884c2783083f77c188691800085ac800084c27c1884ed7c188607800085407d6684c27f1186e17b0186b97c18829a7f8c84c2800087e6800088697b6d7b6d7830893b8000870d7c1889d98410785880008bb8800087d0800086457c187cd880008a0979be8582800087a4800081af80008621800083f7800088a97c188612799e82447c1884ed800087d0800085ac799e828c7c1886e17c18869180008540778d8244800087e67c18864a7c1882d37c2383f38000870d800086b97c187f55800087db8000839f7d53895488037c4080008bc37e72896a7f1482fc783080c0800087d0783087df7e758645758382ea79ee83e877a087407bec87a4783086127a5a8000783086e1790988a9783089547cad7c18784687e6783087d0783089287c187c187b55870d7830872e783086bb7a6180007bcf839f78308a327830833d79e783e8800083e87c1886b97830802880008a2d80008bc780008000800084a8800083e880008b28800082fc800086d27c18800080008ac980008645800087d078307c18800087e6800087a480008d3c783078308000870d800088a980008d10783078308000839f80008bb880008aa37afc7afc800083e880008b058000872578307ee48000800080008e1a80008410800082cc)
def tree_w_54 : Tree := (.node 47 (.leaf 5474 0x80008000800080008d928bb8800089aa800083e880008bfa800080008580858080008000800089527c188a7880008198800083e88000887e7c188b4c89aa7db08000872e800089aa80008ac2848a79c880008869800086be7c188a2380007c1880008a4d800083e88000872d872d800080008cda80008000800084a0888883e8800083e8800089aa87d087d080008000800080008000800080008000800080007830824678308812800086908000847a7d1f84ef8000887d8000876480d38092783086f378de887e800086da85f17f18882f8665800089aa8000863b75c37f18800088f2873d86be800083457e85826d80008b25800083e88655800080008655800089aa80008bb8800083e88000917a7e5e8246800085c27c188378800089e2800084ef800087d17a4382a87bdf85fa7c1886f38000861780008511748183487df285c274f5887d833b83db80008348744887498000887e7e6b8253836f834879db873d841789aa80007f5d8000851e80008986800086be851e7c1880008906800082468000871089aa80007c188c0c783084ef800088bf7f907f90800088247f238a2e7d1584e5800082137830843c76c68458800087d1834485117c188428800087497e4786177c1883db7bc38428800085938000887d75dd82538045847c7d1d88d58000887e80007c5380d587bc800087e4800089aa83d4783080008ba4800085918000880185c27c1880008bb8800086f38000871078307f90800087d080008458800088bf78308213786b84237f7987497a9184e57c1885118000842380008593800087d17a0a83db7c188423800088d58000861780008253744884237e2787e48000887d7fcb7cf68000880b800088c18000887e8423783080008bf380008a42800083837c177c1780008b867c1885c380008801800080008000879e800087497f40871080008354744883b67c1885937d0788bf7c18857d80008193800088d57d9f84e57e2684d177fe8193800087e47c1987d17e6b83e879f581c5800088c17a3e861783b480de800085ad800084d380008ae385ad7c18800089957c1889ab800083e878307fff800087d078308a0f7bb38383783083e87a6f83e8783086267c4988017830873c79d98000783088d578308710783089657df27c187a1d87e4783088bf783088b97c057c057d0988c1762184e4783087d07b297fed7d0384d3783087d1783084c6791f83d5800083e87df289bd78308000800087bd80008df780008000800083e78000838480008a0e800083e8800087d07bb47f9c80008b078000838380008b2478307bb4800087e48000880180008d4d78307830800088c1800087d080008ca178307830800084d3800088bf80008bb87c187c18800083e8800088cc800088ae783080008000800080008bb8800085c2800083e8) (.leaf 5154 0x80008000800080008c518000800087d0800083e880008bb88000800084818481800080007c188a5d800089c4886980007c188725800088698000887b84937c187c1889c8800087ff80008a2a80007830800087d07cb184817c188bb88bb87c187c188869800083e887d087d08000800080008c238000800087ff8417800083e8800083e880008fa08099809980008000800080008000800080008000800080007f558725800087d0800085dc7c187f507e1089c886718a5d7830849380007b68800087d080008869800086427be97be9800084817c4787ff8bf487d074777fd1800087ff80008481800083e87fd183b97c188869800083e88000802f800087a1800080009fd97c188000783098097c188000872580008bb880008914748b7830800089c880008bb8744882cc80997bd5800087d0744887d0800083e6809980007cb1809980008a5d744882d283e87fd17477841778c98869800083e887a183b97fc28481800087ff80d880007c1887a1800087d08869848180007c477c188b8980008725800087d08481783080008cfc800089c880717c188000852c7c40891470608229800089c47ee482cc800085687b0d7f8f7f8c8b447cd783e67d70856880008417800087d0800082d272c88568800083aa80008a5d744880b27d988568797b85338000886983367e798000880c800087d0800087ff8000785f80008bf4800089c88000859e886979d47c188ae77e4182298000873b780683be800086ff7a787f8f7c188000800082cc7a918317800084177a2489c47abd83e680008261783083aa80008b447eea82d27c18826180008533800087d0800080b274488332800087617ea58a5d78e87b498000871a80008886800088698332783080008b02800086118000848484817dbc80008bd07db882dd8000859e800083be7efa87e87c1884177f6b873b7c1884c07d468410800083aa7c1883e88000872377e2856d80008533800089c47c18846078c980ca7f91876180008b447cca80b2788780ca80008886800087d07c187f318000849a800083d07c188bb8849a7c18800088827c1886c5800083e8783081a4800087d0782e87ce7cb48484783083e8783083e8783086f879e6859e7714878b7c188000783085337830873b78c98b0b7c187ca878308761783087d0783088487ca87ca87cce8886783089c47830849a78137d3d7c0083d078308b447830831978e281258000835c7c188bb8783080008000850d80008bb6800080008000858c7c1882e080008ae0800083e8800086617ef87ef88000891b8000848480008b7378307b10800087618000859e80008ef378307830800088868000873b80008c3078307830800083d080008bb88000888278307c187f74835c8cdd89c4800087017c1880008000800080008b44800083e8800084f5))
def tree_w_55 : Tree := (.node 8 (.node 23 (.node 11 (.node 32 (.node 60 (.node 47 (.leaf 5353 0x800080008c7f8c7f80008000809a886a80008000800088977c1887d080008482867481f67ed587d080008a898000809a7c1883e880008bb880008bb88549809a800087d080008aeb80008964744878ca80008684800087d080008acc78307bc980008985800083e8800087cb7bc97fb18bb88bb880008000816185988000839980008000800080008000800080008000800081f680008897800083e87c188674800083808000883d816186a17c18828c783087d0800086a586a587d07ea47ea48549868480008bb88000868b78307c227830859d85498aeb800086e480007d7e800087d0800087d0783083e38000816680008a03800083e8800081b07c18854e820881f680008bb87c18855f80008d817bb08380800087d07c18800080008999800087d07cdf84af800082b9744885b1744886847c85883d8000845f800081c9800085ef800086a576eb868b79f981c97f97846c80008bb8761282fc800081c98000861b80008aeb85497ffb783083e87fb18781800087d085987dc8800087d08000838080008822893181777c1887d0800087d08931898e78307d7c7c1883e87fed86847bd887907c1882b97dcd81b58000850f76cf84af7eda845f800081b58000846c8000883d8000868b71d281b57a63861b744886a5800081ca7e8e865e800083997c188bb881617c138000898580008ca280008aeb7d5c800080008d6d800087d0800083e889317dcd7c188b637ec787d0800088227d7c7d7c7c18877b7d3f850f8000898e783082b9800083937830846c8000888b7dcd845f7fab83938000861b800084af8000868b744883937c1883997830883d7c18852b800083e880008ca2800086a5816179d17c1887d0800083e880008bb88549799180008bb880008bb8800085497c187dcd80008c437c188742854983e87c1881648000885b8000846c80008822800083e8744884737c18861b7dd6898e7c18845f7f8080e17c188399800087907c1888df7d7980e180008ca27d7984af7c1882b67c1880e18000879380008b5e7c187db97830843e800084bd80008a8d7c187d79800088267c188b2a7de381cb7830803e800087b6783088547d7985497663837e79fd83ce783087d0783083e8783087d07d798055783083e878828822783088477d2780987d028ca27830898e78308cc778a77eeb783083e8783087907830869e7d7982d37ced84bd783087d0783081a178bc86bb81618d737c188f46783081618000960f80008c3c80008000800084267c1883e880008bb8800081cb8000876680008000800087d08000854980008bb878307c1880008ca2800083e880008c2f78307830800083e880008822800090af78307830800084bd8000898e80008a8678307c18800083e880008b78800085897c188000800080008bb88bb880008549800083e8) (.leaf 5494 0x8000800080008da580008000800087d080008000800083e880008da5800083e8800080008000884580008d307830800080008bb88000890780008fc3783080008da589bd800087d080008bb878307830800087d0800085df80008baf78307c187c1889c7800083e8800087c7800080008bb88bb880008000800085d581ed83e88000800080008000800080008000800078307eb9800089bd800089bd7c18834180008bb87d34811c817889487f597f59800089bd8000846c80008bdb78307b7178308704800089078000895380007c18800085df800087d07c0f87c77c188000800087d0800085df8da583df783083e8800087d0800083e8800081ed800087d080007eb99d45800080007c1896bc7c1880008bb87d7d8935744885d58c407ab3800089bd744885d5800085607c187e9b7c1887047714811c800087f37c1882838000857e82e4869b7d9b895375b780098000849f79678907800083df7c1883f1800085d585d587d080007ff7783087d97c1885d0800085df89bd7e0580008bc180008bb8800087d081ed7830800089bd873d89bd7c1880007c1881ed7e9886687f3487048000854d758b82bc800086687dae857e7c18821a7bbd87757c1886687830849f8000811c80008953706086687e0585d5810e846c772282d180008863800082928000890779b37d9180008c4b80008c3e800087d080008000800090337c1889bd800085cd8000796780008c8480008704800087d07c187e058000889c7830857e7a2b8000800082bc800087d08000849f8000854d7c188775747584157c1885d57e32821a78308953800084337eaa82927d348504800082d17448841580008c3e8000846c78307d9b80008731800083e88000890785d57d6e80008b1980008aec800087d080007d4f80008e1b80008770800085cd83807e057a868a337c18849f800087d07c1882bc7e05864b7c1885d57e0583e87c188775800084437c1882927c18854d800089537c18844380008c3e8000821a7c1882da78308443800083e87c1888ec80008183800085c88000829089bd87df800081567c1889b07c188b58800083e878308137800084ff78308887800087d07830800076358117783089bd7a1585cd7830852b7c2080bf78308492783087d0783088547e0580bf7c9e8c3e783087d078308d3b79978196783083e87830854d783086c27e05857e7ac08290783084157830856b7b75896681ed90727c188cd478308a2280008d4e80008c6f800080008000851f800083e880008da5800083e8800083e8783080008000887a89bd87d0800089137c187c1880008c3e800085cd80008b3a78307830800083e8800087d080009123789b789b8000829080008bb880008aaa77c57c83800083e8800087d0800089537c83806b80008000800087fd8000892680008453)) (.leaf 5000 0x8000800080008cea80008000869e83e88000800080008b4e87d0883a80008000800080007c188bb87c188bb88bb87c1880007c189b5880008000800097707830800087d08000880c7e6c8b618540784b8000880c7c1883cd80008b7c87b07c337fe587b5800083e8800087d08000801b80008bb880008000800083cd87d084038000800080008000800080008000800078307e648000890280008452800087d078307c18800089b77c1887d0800085e9800087d0800087d0800080007c1883e88000880c8000800087d087797448801b800083cd7c54880c800087947fc4801b800087d08b6183cd800083e878878403800087d087d083e880007fe5800087eb7e647e64874a874a7c18835580008a867c18800080008bb88000806a80008766783087d07c18851a800083e8800082b68000880c762f89b780007b747e19827a7c1883cd783087058000863c8000827a7bbc83e880008000788c8444800083ac800083e88000880c74488000800087948c0f8843800083cd74487bfd80008b7c800083e88000886383e87f6d800087d0800087d08000874a83e87c82783083e87c54880c8000894e7bdc822e7c1880007c1883cd7962851a82b67f5c7c1880007c188395800089b77830863c800080007bc983998000870580008444744883e88000845b783083e880007d06800087d0800088748000880c83087c3680008bb8800087d0800083e883e87bd780008bf97c18880c800088637a9e7b0880008811761183e881df874a8000822e7c598429800083958000894e80418344740783617c1883997c18851a8000863c7c1883617a5d822d800089b77c1884447b918361800088747f3587057c187d068000870880008491800087d083e87c3680008af07c188bb8800087d080007c6b80008d32800087d0800083e87c187e868000894a7c188395800088638000822e774085627c1883998000874a7c18872c7c18817a7c18822d7d96894e7c1886937e82817a800088748000851a7c1884807830817a8000849180008a217c1880ee7c1883e880008494800087057c18801e800087d07e378bb87de181c978308053800085b47830877d800087d07830826e744881cc78308781783083e8783086167c1882097830822d78c3886378308b147b857de478d48874783087d078308a7b7b747e7878d984917830894e757185a87e2e80007cc4849476968636783084d6791e83e880008d4f7c188e09783084068000936a80008b65800080008000843b800083e880008b69800081c98000865678308000800085a2800087d0800089fe7c187c1880008874800083e880008efc78307830800084918000886380008e63783078308000849480008bb88000899079ac79ac800083e88000894e800088be78307d948000800080008a1e800087ee8000817c)) (.node 39 (.leaf 5064 0x8000800080008de7800080007c1885e18000800080008a0a800087c57c1881f98000812680008bb8800088d97c187e11800086c9800087d080008b077a297a297c1887d0800083e880008bb880007830892387327d6a853a7d9b8d3b80007a2180008ae7800083e8800086f07c187e0980008def80008000800083e87c1881f18000800080008000800080008000800079568126800089ff800083dd88a384c6800086c97f608730800084f17cf880de7c18855f78308a558414871f80007cf680008732800087d0783087d084287cf6783086ff7830800080008953800080008000879e8000853a7f2083087c1883e88bf88810800083e8800080007c1887d080008126800084f0881085e27c1887d07ef986c98000892281477ff57c1883e88000855f8040861774488109800080007c588732800087308000867778307eee7e1e83177e9d8a557f9e876e78307eee7c5883b6783087d08000856b800082d6800084288000800074487f20800086be800087d08000853a88107c187c188aa67c1886c9800087d0800083e8800091537d8f855f7d2084f081a97c0d80008d6b826887328000853a7dd87dd874488983794283178000849e7f2e86777c18859b80808377740887308000876e800081b37b89835980008a557c18856b75fb80af7aba83e8800087d085867dea7c188000800080009b9880008000783093c880008000855f8000842876427e1280008c2f800087d07fc987997c187c1880008847800083e8800084f07acb800079bd846380008377798285787c1886777eee8463783083598040849e8000876e7c1884637c5882ca800087307c18856b7c1884638000800080008a5584287dea783087d4800084c1800087d07b7b7b7b80008bbc86168bb8800087d07c187e1280008fa0800083e8800084287c18800080008bb87c1883a8800087997d6580b77b0b87d0800083597c1884f07c1887287c588457800082ca8000853a7c18876e787084577c1880007c58849e7c18856b80008457800084c1800088de832c81d2792c8457800081d280008a557c187f638000883f7c1887d0800083e8783080008000881078088768800087d074b080687830842878308701787084287830849f7c188040783082ca7830879978308b107c587e55783083e8783087d078308b567c587e55790984c17830853a783087d07b7f81fd7a0281d278308657783085ba7a8685e580008ed27c588cc67830834b8000942580008b5080008000800083e88000849080008ae9800083e8800084507cc080a8800086b2800087d08000888778307cc0800087d08000842880008ef8783078d8800084c18000879980008f3e78307830800081d280008bb880008bb878307a86800083e8800087d0800089a27a867e6e8000800080008a3f8000873380008256) (.leaf 5212 0x8000800080008d8d80008000800086cf8000800087d087d0800089e3800082a9800080d4800089e880008adf80007ec1800083e8800089e380008bb884bc7ad9800087d0800083e88000907484bc7830800088a0800084bc7c188c5480007aac80008868800083e880008978880c7e9480008df880008000800083e88000827c80008000800080008000800080008000790480d4800089a5800085fb800083e880008000800086fd84bc86f7783080007ebc868c800089e8800087d07c187c18800088a0800089b078fa89dc7830783084bc8480800080008000886c78307c1880008a10800084bc88a485907c18800080008c8c800083e880008000800083e8800080d480008bb884bc7c1880008bb880007ec180008bb8800082137cec87d08000868c7ded85bd7fd3842b775c83e8751888a07f2d86fd80d784bf8000800074d68098766089e8800089dc80008000772486287df889b08000848480008000800088a484bc8000800081a8783083e880008bb87cec84bc83e87c18800087d080007ec19c2c800080007830959b80007830868c80008bb882187f6f80008000800088a07dbd87d0775f842b80007fc180008092727382517c1884bf800083a9800086287c188840800089dc6cb77c18789084bc800089e87c8c841680008000800087d08c8c89b08000807970608000800080009c2c800080007830945c80008000868c800087c980007a4f80008bb8800088a07830800080007f6f84bc87d07833809280008bb87ce9842b800083e87b7c86288000858d7c1884bf7d8883e88000844880008251800089dc751c83e87d918561775c86fd802f8416800083e881a88000800089e8800080797b4487d0800082e17c1889b087cb7c1380008bb888a48bb88000860b7c187e3780008b55800083e180d487c97c1881448000876d800086288000800080d48504744883857c18844880008bb87c1884bf7c187f9d7c1885617c18858d7d5a89dc7f927f927c18800084b182518000841674537ff57ef982e180008ae57dfe82b97ff583dd800080e480008bb880007ffb800087c57c1887c9800083e87830821f8000868c76e186817e3b860b7830852c783082a4783084487c1187c9783088ec790b7f6078308561783083e8783088a77cec826c783083e878308bb878308bb87cec826c783082e17830858d783087627cec848c791480e478308463783086a17c08887480008d5f7cec8ecd783083e38000938d80008a698000800080008607800083ec8000875c800083e88000891488a48004800085618000860b80008cd484bc7c1c800087d0800087c980008c8f84bc7834800083e8800087d080008fa080007904800080e480008bb880008b4a84bc7c76800083e88000858d80008a898000805e800080008000884b800087cb80008446))) (.leaf 5766 0x800080008eb68eb680008000800087d08000800080008bb87c1886e68eb683e8800083678000880d80008b1286e680008000862180008a61800089ec86047c18800087d080008b4a80008b3c8000783080008978800087d080008925853d7c188000898d800083e880008911891180008bb88bb880008000800086e682fe83e8800080008000800080008000800080007b9783678b4f8ace800082fe80008553800086217d9d87d08000872a7830816b800087d07c8a845a80008a5c800080008000897880008a618000875477707b58891185a57f928b4a800087c276737dd5891187d0800087d0800085297dd581bd7c1889fb800083e888a382fe800085a580008367800087d07c18806680008ae97bb986217d938a4e77467f168e848701800087d087b5885b744883427b4983197dc089788000856d8000887078307f31837a81bd8000845a7b9c836c78307f31800084627ac18a61782287c280008000800086138d758b4a79718141783083e8800087d0800087d086e67f16800087d07eb086218000882f88367c7e80008bb87c1887d0783083e880008000800087d080008978800086667e6982517448845688e581658000885b724988707c1884567c1884627448856d7c18836c80008456800086137c18845a800087c2789e84568000841b80008a6176ba7fcb8000883e800083e880008b4a86e67b2e80008c267c1887d0800086e680007c1880008bb878308978800088cd78887c70800087d082fe816580008000800082517448853c7b4583907c00854b800088708000853c7e43861388a3885b706080008000853c7863841b8000856d800087c27d6c853c8ace80007c18845a8000800078308924800086e980008a61853c783080008d0c80008bb8800087d07c187f9a80008fa0860e8390800086e67c1880587cf08bb87c1883908000882f7c1882f77f1687d07c1886137b2e7e7a80008a3c800087bd8000841b8000854b7c188000714a87bd80007c187c18885b7c188a557f1687bd800086e98000856d7c188272800087bd800087d07c1888057b0c7b0c80008ba57c1887787fd483bc78308382800087d078308778800087d077468356783083e8783087d07b2e86e6783086df7c1880f17830841b788f882f7acf8e247c187c1880007c18a23e78a980007c18a1c578307b3186e9782d854778308e3d7c187c18800087d078308946774685707830800082fe95017c18895578307ef48000987c80008b60800080008000876a800083bc80008bb8800083bc8000873e78307fd480008803800087d080008ac77bec7bec80008000800086e68000920c74487d94800086e98000882f800080007c188000800087d07c187c918000922580008000800083e8800086b18000895876dc82948000800080008d2e800082dc8000867c)) (.node 35 (.leaf 5104 0x8000800080008f198000800084d784d78000800080008bb880008749883880ef8000810180008a7380008b7584507d07800083e87d2888e080008e098728791f7c1886b88838878c80008d7c800078307c188bb87e408610800087d080007a587c698ba1800083487ef786c780007e4080008de080008000800083e886108228800080008000800080008000800080007d19810180008b31873783618000845c7edb82c38000892c8575878d78308074800086b88000868b78308a2184507c8c800087d0800088e083488994793879ac800088218558878c800083e87728805b845089f880008610800082df800081087e0e8bb880008348800080007d2084f07c188101800089eb800080007c188903783082ea7eb68b6c859a807f8000851b800086b874488749790384bb87658133800083e88000892c7c18863976fd7f00816888217448868b800086447f007f008838895b800088e078308000744881b5873087d08000878c75517ef78000859d800088438000861084507c1880008985800082c380008b2088387c187c1889f57b0086b8800086ac8000807f8000860d744880007d168784835284bb800083e88000882180008655832c82a9718482d17da3895b7830892c7edd864480008595800085de7ebb868b7c1881f279dd8595800087847c1888e07b0f7b0f8000887c800087d07c18878c8494783080008c64800087d080008bb878307830800088387c18800080008b208838810578308450783088217af486ac7c1884bb800080687c18895b800087847ec182a9783080687c1885de8000865578308755800080687fb487847d0c892c7b6f7f577c8083e8800087d08000868b7c187c18783087d0800085cb800088e0798c798c80008bb8800080009cc67c188000783097d87efb8000883880008bb8869784ed75e97b137c18895b80008b207c1884fe7a777a777c1885de800086ac7c1882a9787080007c188784800087848000864478987ea4800087d07e8586557c18833f7a13828c800084508000892c7c1880008000867480008450800087d07c187d7480008a5c7c188c20800083e878307c18800087d078308b1b78307c18783088d57c8083e871a47f5280008bb8783088e67b3c8000783087847b808b207830843f79307d0c783087d0783086ac783088687c807d0c7898845078308784783087277c1880f47c808450783086dc783083e8783084dc80008eac7c808d1478308eac800088c480008f038000800080008000800083f98000833a800083e880008cbd7830801180008af98000800080008cce7c297c29800087d080008bb880008827783078418000845080008b2080008c5078307830800084508000887980008b0f78307c18800083e8800087d0800088387c1880008000800080008ac480008544800083e8) (.leaf 5158 0x800080007c188bb880008000886e886e80008000800083e880008bb8886e8486800080007c1887d080008bb8886e809e7c1880007c18890c80008e6480007cb6800087d08000898f7c1883e880007edf80008bb88000801a80008b9e84867cb6800087d0800083e8800087d0886e809e800083e8800080008000878180008486800080008000800080008000800080007c188000800087d080008486800087d080008000800083e8848687d0783083e8800085c2800083e878308a7c7c188000800087d07d54890c800080007c187ef97edf83e87dd7898f800087b680007ef9783080008c56801a800083e8800082e1800085dc800083e8886e8399800086c97c188000800087d07c18800080008c5677927f6280008bb88524809e8000886e7a0a85c2800084868000848675b88558744883e874488000800086948c568558800083e8783083e878308000800085587c187e0c8000890c7fe687b674488558783081f48000898f84868000800088a3800087d07c18801a886e7fb180008c8b8000834a80008cf480007c18800087d0800085c27c1887d0809e809e800083e87c18800080008bb884868486744880007c1883e878ce8486800083e88000800080007830a3c6783080007830a3c678308000809e846c83e8707a804f80008000800087d08486890c800080007830800080008ae58000898f7fb17bc9800083e87c1885c280008a7c83e8783080008bb884867ec480008cf48000809e783087d0783083e8800087d0809e84867c1883e87830809e80008bb87c1883e8800083e878ce809e800084867c188000800083e8800087d0783080007c67804f7c1883e880008ae58ae583e879a07d88783087d0800087328000890c8000783080008bb880007ec49bf680008000783095628000800087d080008a7c7c1883e87a0a7df2800080007ec48cf47c1884867a0a7be380008292800087d07c188d4378ce7c817c1887d080008bb87c1880007792809e80008ae57c1884868000806978ce845180008732800080007c18817080008b838000841d7c1887d088397c1880008c217c188bb8800083e878307c188000886e783083e878308000783087d07cb684867254809e7ec48a7c7830886e7bfe809e783087d07e908cf475b882ac784a7cb67b458ae5783087d0783083e879a07cb67b7a8732751b88a3783084517c8180007c4d841d7830886e768b83b37a3e83e88000980e7c1883e8783080008000980e800087d08000800080008000800083e880008486800083e880008bb87830800080008bb88000800080008c567c187c1880008ae580008a7c80008694783078308000873280008cf4800087d0783078308000841d80008bb8800088397c187c18800083e8800088a38000879b783080008000800080008c56800083e8800083e8))) (.node 6 (.node 5 (.leaf 5116 0x8000800080008bb880008000884487d080008000800089cd80008647884483e88000826f800089bd800087d0845c80007c1886b97c1887d08000895b80007c18800089597c1885e480008c8f84bf7830800087d08000857480008aa0845c7c187fb08b6a800083e87cda84aa87d080008de88de8800080008000822c7e4483e88000800080008000800080008000800089cd826f800087d07e77825f7c18875e7ee986b9800085e5800083e87c18837680008959800085d5783085407c187f8e78d88490800085d5800088a77f8e7f8e80008782800085e4800086b874487fde86b88a007da48574800080c2800083c680008a22800083e880007e447fde87ae7c18826f7f7d89278000800580008861800086b980008a5375d17e778000847979b98959800087d0800080eb7a1881e880008490825c81fd7c188158764881e880008780763585d57cef84bf800081e880008618865c85d5744882d07a18853f800088177e1485e4776e7cda800089278000871d8000857480007a5c7c188d0f800086b9800087d088447c1d7c188956800089598000874d7de77de77c18856e8000849080008a53774581347d7783e674488780807487d0800080c6800083e68000861880007e1573718be9814b83e6794d8817800085d57c187fc97f5786488000871d878285d57cda7cda78308a30800087d0800085e48000783080008e1880008959800084ed845c783580008c1478308490800087d07c187f708000882c800087808000874d7d0380eb77b984447c18861880008a537cde80c67b7182cb7f298817783087d07d63814b800082cb7b65871d854680007fc97fc9744882cb800087d0800085d5783080008000865780008bb87c1885d58000783080008a3f80008878800087b67bfe7bfe800087d0800087ce800084ed7c1883587edd83e87c1886187e8487d0800084d37a208141800088177c18874d7c1883577c8c81418000871d7e9b8a538000814b760e8141800087d0800087d07a6a7f337a52852980008bb87c8c7b4b800083e880008911800087037c1887d08529783080008cf97c188bb6800083e878307fe68000847874d684767fe687b67830874078308090783089ac793584ed783088bb7b877ca8783087d079ac87d07830873f7b107d1d783087d07830874d7830845c7c8c7e4b80008bb878308a537830831b74bc7ad77f33870378308bb8783087d07589797180007c189e737f338000783098b17d598000885e80008000800083ce800087d080008d9484ec866880008b28800083e880008bb8800087b680008ca378308000800087d0800084ed80008b2778307c1880008bb8800087d0800088447830783080008703800089df8000870378307c187c187c1880008bb880008bb8800080008000800080008fa080007c187c1883e8) (.leaf 5411 0x8000800080008f0b80008000861886188000800080008f547c18839f800082308000856d7c188ab87c1886b788e77e48800086e98000882280008bb878307a607c1887d0800087de80008d4578307830800088828000863680008a5378307c1880008bb8800083e8800085837c18800080008e4880008000800082f3800083e8800080008000800080008000800080008000856d7c778c1780007fb7800083e8800086e980008b6c800082cf783080007c1887d0800088d8783088637c187c188000888287de88227da5895d78307b22783087d0800087de8d45866b78307f0a80008a60800086368583819b7f0a82f280008b56800083e880007f0b800086da7d9d856d800086f77c187e9a7c188a267b3186e980008c2d820d7bcf8000863e800087d080008c177aff7ee778308256819b888274488784800083e880008135800083e8793888d880008575769e8135781687b682d58822800082837af882c88000883b7c2687de78d77e5a800086b0800089327e66863680007b2385bb8a98800086e9800087d07ab27ab27c188bb8800087d07a76896b833d7c18800087d08000888280008c2d78307aff783085757830800080008c177bc783977da58575800087b68328839c72bb8328800085758000883b800088d874487e9b800085758000854a896b88227c187e5a7830895d800087d0800087de8575783080008d45800087d080008a7778307a23800088b97c188882800087d0819b8000800084d1800080008000862e783080007d0184d1800087b680008c2d80008397735f7da9789b883b80008c177f4083287da97da9799281628809800080008000744880a780008715800088d87c1880a78000848f80008bb8800088c480a77830800088777c188bb8800080007e0b7e0b80008b60777c7f4c80008a77863883e8800087787c1887b6800087d08000800079cb83908000883b8000862e7c188397788a83237c18816280008c2d8000832879cb83237f3787157c188c177a947e7c8000837b80008bb885f07d797c18848f7bab8763800087d0800089d8837b783080008b4b80008334800083e8783081f37db38c157830890e78307c18783087d07a7d882d7830889d7ebf8a7770607dca7ef4844574488000783087d07830877f819b8184783e871578308707783085837c18818480008bb878a58c2d78308264756e7ada800087d078308cac7830887775e3783080007c18a0db7dc6800078309b467c1880008f4880008000800085db85db800080008c858d538c8680008bb87c187c18800080009cf37c1880008000990b78308000871580008a7780008b677830783080008bb8800087d08000896b78307830800087d080008aef8000864c78307c187c187c1880008c2d80008c5f80008000800080008000952383e87c187c1883e8)) (.leaf 5876 0x800080008f248d4980008000800087d08000800080008af8800088148b3c83e8800082767e5b8bb888c688c680008000800087fd800089067e2089d887d07c18800087d08000897380008d8085b0783080008754800087d07c188bb88b3c7c1880008b3c800083e8800087d0800080008cdf8cdf800080008000862d800083e8800080008000800080008000800080007aa68276913189617c5c842c7f2186f17c4587fd80008710833e84de80008309800087d080008a13800085f075277f21783086d7800089068000899880007d7e7830875487548973800087d080007e5d800088f7800087d0783083e88000824580008ac2800083e88000821c8849862d8000827680008b277c1880008b3c8957800087fd800089437f8480448000856f783087d07da989618000843c81db8187800086d773888328800085f080007eee7c18871387548a13744886e080007eee799288b679668906800083e88000814f800086da800089738000816f783085377cde87d0800087d087547e348000891f800087fd800087d07c187c1880008b0e80008a97800088da7f847c5c800087267b1f86d780008943850e839b7786833e8000871385738961724083428000833e7f8488b680008000800086e07830833e7b9c851180008a137c1883e8800083e8800084ae800089068754816f783087d08000877c7dbb897386047a4c80008bb8800087d080008bb87830783080008b3c800087547dbf858f85ad82be7c18875480008713800088da7830839b7f84836c800088b6800089438000834274c481b979bf84fa7c1889617f1086e082cd81b9800084ae81388000767c8234800082358000855578308a138000816f8754861d80008bb8800089068235783080008a0580008b3c800087d07c187c18800087d07f43878f80008bb880417fc4800083e87c1888b68000858f8000868d7a528222800084fa7d2288da7f5a8522783082227a2884ae7d8b8943800086e0800082227d8585557c188961800082347448860a80008bb8836c7bf37c188557800089f2800086d780008a13860a783080008dda7c188b77836c7c187830800080008f6478308b77800087d0709c78307f488b7c6e58793280008bb878308a75800087947a2084ae7830858f7830890a715983ac78308555783088da783089007f847fc480008bb8783089437830861c77b47bdc7f0786d778308bb87830893f78ac7b2680007c18a0327fdb800078309b007e918000930c80008000800083e883e8800080007d1a9ec47c1880007c189dc17c1880008896800087d080008e5d800078308000861a80008bb880008cf28522783080008bb88000858f80008ce885ad78c5800086d78000896c80008a0486b17cad7c187c1880008bb880008d278f2480958000800080008fa087547c1880008b3c)))
def tree_w_60 : Tree := (.node 24 (.node 3 (.node 39 (.node 6 (.node 36 (.node 5 (.leaf 5233 0x8000800080008fcb84a784a7800080008ca1828080008bb87c188639800080007c18838b8ca186f8800089ef7c18800080008000800080008000800080008000800085987c188709800087d080008000800086ca88b985877c1888208000800088b98bb8800083e8800084d18000800080008ca180008000800083e887d083e88000828080008a98875980bf8000869b8000838b80008be380008251800082b3800087d0800087d07830860780007ecb80008598800084ea80008dac79907c43800083e880008bb8800084677c18806a800087d07f39870980008438783081607d0188b987d08587800080e98000854880008759800083e88ca180007c1889308000838b800088a088b97cd77c188b70800087d07c7e86b080837e698000878879e085987c4387fb8000832e7f0f83a07ba58375744883e8800089c485448350800087d080e984ea7448846780008350800084d180008bb88000805074488398800088e7800087097d017d01800087808000876a8000858778307c1880008b68800087d080008b3b854e80007c188fa08000859884d184b878307e6980008bb8744883758000844e88b9832e78308980783087d0800087fb7c01885180008980735f82a27c1883e885ba846780008980800085b7800084ea7b51805079e089807a48862080008bb88299791980008980800087d0800087097448783080008d687c1887d0800083e888b97830800088a38000847b80008b3b7c188000800084bb800087d07ce884b88401832e744884bb7eba82a27830844e800088517c1884bb783085b779b6859880008467800084bb800086207f1783e87d178050790387d08000876a783085c380007b8c80008bb8800089a680008bb87c18800080008fa080008863800087d07ad27ad28000896c7c1887d07f4d8335800083e880008584800082a280008b3b7c1884f87919819c8000862d7c1884b87cb088517c69813a800086208000844e8088884f74aa813a7eb1876a7c1885987c1883e87e508386800089a6800083e87f9b7f747d66876e8000826f800089ab7d017d0180008b567c188bb8800083e878307eba80008617753182a2800087d0783087d07830822f78308a1578308335783088e07d017e47785086867b9b8b3b7830885179767a5f7919876a783084b878308c377c187c187dee89a675bd82fb783087d079b680007a9f826f783085987830835c7a9283e8800083e87d0187d0783080e9800087d08000868a80008000800082a28ca18b4580008dfd800083e880008d15828c875d80008a6e800087d080008cc8744883758000876a8000833580008a457f8d7f8d800089a680008b3b8000901f783080008000826f800087d080008bb878307e7a800083e8800086e3800087447e7a82628000800080008956800084d18000864a) (.leaf 5369 0x8000800080008ee78611858080008091800083e8800088af8bb887d07ca98091890b813b800087d080008b5c7c18809180008000800080008000800080008000800083e87d888940800087d07c1880007eee87d080008694800086948000800080008bb8800083e8800085587c1880008bb88bb880008000800085587c1883e8800083e8894086bb80008198800088be8000813b80008aff800083e8800084d6800087d0783084c780008774791e80ee800083e8793f84f780008dd877427e428000871780008bb8800083e8791e7e42800087d080008940800082ac796c813c869487d07ec486948000817080008524800087d0800083e8894080348000890c89cb813b7f4087d074487db080008e3d800087d0800082d37eeb80007e9d8a55744883e88000871773ec838c8000866d800086be7c18814a800089f071c38301800087d0800084f774488531800083017857877b80008bb886197ec4774983017bca87828000894081bf7d8880008463800089cc8000869484987c4c8000884b800087d080008fa07c188000800092218000860f7d88849880007c1880008e397c1886be855883e98000800074488a51706081c48000871777778717800089bc7b9d877b8000814a800082777a1c89bc80008782800084f774487ec4800089bc7e1485e480008bb87f7479a0800089bc80008831800089408000786480008b22800087d080008bb881c579f57fab877b7c1886be80008fa07b077b0780008393800081c480008498783080007c1883938000877b817082d3800087177448839380008782783087177e8f82777bf283e8800085e4797a814a800085fa7c3e87d080008831783084f77c187c1880008bb880008bb380008bb87830793580008fa07c188aa6800080007c187ddd80008c757ddc81c480008bb87c187eef8000888d8000877b80008fa079377937788784a57c1887827c188498800087177d8881c87c1885e47c1883e87c18865f7c1881c87f50883182208717800083e8744881c880008bb3800084537c188000800084f280008622800088df7d1d7d1d800088da7c1885ac800083e8783081c58000899f78308b6378308000783082d77d8886be78308b6a80008bb877297c0776c081cf70607e1480008fa0783087177d887de7794188317830849878308a477c777de77ffb8bb374848424758285227c1880007e52862277678707783083e8783083e8800083e87c18883b78308105800087d080008f4b80008000800085ad85ad800080008f52800083e8800086bf81bf8e3a800080009cd9800080007fef94f878308000883180008bb8800088df76bb783080008bb380008fa080009a1e79a57ada80008622800088808000890a7d4d7d4d800083e88000880c800087d0783081358000800080008aef800084ed8000851d)) (.node 13 (.leaf 5315 0x8000800083e883e880008fa07d52813a7ec682ae8000890a800087d08000813a87d08000800087d07ee58bb87c18813a80008000800080008000800080008000800087d08000838580008bb87c187db5800087d0800085287c188a167db57db5800083e8800083e890da89bf783080008c728c728000800080008469800083e8800082ae800087168000832e800087d08cf2800080008000800083e8783083e8800087d078928522800087d07c188000800087d0800087d0800080007c187c18783087d080008bb8800087d0796a796a800082ae783083858cf2862e78307d5287cb888a7d588528800085d78000813a80008b37800083e8800080817c18852280008000800087d085227f4680008dac800087d07f46832e800080007e0c89c4783087d078308000800086b5800085dc7fbc87d08000844a783080007477822375828000800087d0800087d080008223796a84a280008bb8800082467c18822380008b377f9d83857a1f81ef7830841780008b048000852884977c99800087ff800087d08000880684ed8000800083e8800087d07bb6876e819c7f4d800083e8800087d08000832e7c1886b57448800080007830a462783080007830a4627830852282638000844a744887d07c18800080008b37744887d0800081bb744880007b36871c80008bb878307e07800083e8800087d0800083e885228000800087d0800087d080008a0182f2796a80008987800087d0800088067c187f4d8000859f783080ff8000876e7c1886b57dcf859f800082638000832e7c188000796a859f7f7f8b377c187c18800087d0730e85a3827586ee76f6844a7c1881bb800087d08000871c800087d078307a1f80008bb880008b6b80008bb87da0800080008fa07c5c8bb88000804488c67d5280008b748000800080008a017c1883358000878c7c188263800088067c1886b57bd483a47c188b378000876e7c1880007a90821c800086ee839b83e8800087d071e8821c7b75871c7c1880007c18875e8000864880008b6b800086f77c187c187e788648800080af80008bb880007e2b80008a307c1883e8800083e87830813a80008bb878308591787480447830871d7d0e87d078308bb87e498a0178308a9d773a83e8783086ee78668806783083e87d1d81e77c06871c769885d778308bb87b137c187fb38b6b765b85fb7830874577a57c1878df80af783083e8783080007ca3808b800083e87d528adf78308213800083e88000897980008000800085227e57862780008fa0877e852280008b058000823f800087a28000804480008e8578307e578000871c80008a01800087d079977bd680008b6b8000880680008fa079d87b3f800080af800089bf80008b2d78307f27800083e8800089e3800083e88000830f80008000800087d0800085fb7c1886f7) (.leaf 5000 0x80008000800083e87c1880007c188000800083e87c1887d0800087d087d080007c1883e8800087d0800087d07c18800080008000800080008000800080008000800087d0800083e880008bb87c187c18800087d07eb386838000891d75957c18800083e8800083e88000891d7eb3829b80008bb88000800087d083e8800083e8800083e8800087d07c187c1880008bb8800083e887d08000783083e8800087d0800087d087d083e8783083e87c1883e8800087d0800087d08000800078308000800083e880008bb8800087d074487c18800083e8783083e8797d85358000800083e887d080008683800085358000800080008bb8800083e8800080007c1883e8800083e880008bb887d078307c188bb8800087d07c1883e880008000800087d0783087d07830800080008000800083e874488000800083e87830800087d083e874488000800087d07d658535800083e8814d83e880008bb88000814d72fb829b800087d0800083e8797d814d80008683800086838000868383e87c1880008a6b800087d080008bb883e87c187c1883e8800087d080008bb87c188000800080007c188000800083e8783080007830800080007830a328783080007830a3287830800083e8744883e87c18853583e88000800087d0744887d07c18814d83e880008000868380008bb876e37d65853583e8800087d0800083e887d078307c1887d0800087d0800080007c1880007c188bb87c18800080008bb8783080007c1887d0783080007c188bb880008000800087d0783083e87c1883e87c188000800087d07448800083e880007c188535800087d07acb8683800083e87c18814d783087d07eb38683800087d0797d797d80008bb880008bb880008bb87c187c187c188fa0800083e8800087d0706078307c188fa08000800078308000800083e87c188bb8800083e880008bb870607c18800087d07830800080008bb87c188000800083e8800086837c1883e87c1885357c1883e88000868383e880007c1883e8744883e880008bb8800087d07c187c18800083e88000800080008bb87c188000800087d07c1883e8800083e878308bb880008000744883e8800087d078308bb878307c1880007c18a3287c18800078309b587830783087d07c188bb8783083e878307c18783086837c188bb87830891d7830783080008bb8783087d0783087d07448783078308000783083e8783080007c188000800083e87c188bb8783083e880008000800087d0800080008000800080008bb87c18800083e8938880008bb8800087d080008bb8800087d07c187c187c1883e8800086838bb88000800087d07448800080008bb880008bb880008d057c1880008000800080008bb880008bb878307c18800083e880008bb8800083e8800080008000800087d087d0800087d07c1883e8))) (.leaf 5280 0x8000800080008da28000861986fd80e57e8d8275800088f380008852800080e57def81d77c1887f78eba89ed7c1880e580008000800080008000800080008000800087d07d908948800087707c187c18800089a88000869c8000884478307c18800088e8800083e8800087d08000800080008bb8800080008000850088e883e8800082758000876e88e882318000888c800081d7800089ba8000846a800084a4800087d08000860e80008605744880bc800087d07c1884447c188bb87cd47cd4800087f580008bb87deb85bb7a7c7b388000889880008948874b845c75e47e64800087d08000869c800083e87e64824c80008a47800083e87c55803d800086347c1881d7800087d080007e497c188cb0800087d07830838678b28082800088c87c1887d07e0285d2810c821d7a3984e0800087f5744882d1800087d0800082097f39889880008444800085bb762782097552860980008bb8800e80d5800082098000865f80008948744880007a3984f9800088cd8000869c78307c55800088e1800087d080008cd083e880007c188f8f800087d07ba983e878307c9a80008c4d746d87f57f9e83867b6081657e3a87bf7d058898785b8215800083e88000860a86c48609800082d1728485bb7c18860a75a7854780008444800080d57718860a800086b580008bb880007c187d30861b800088e8800089487830786d80008a037c1887d080008bb88118787c8000889c800087f580008cd0783078b2783087297cbb889880008379783081658000872980008609800083867c1883e87830872980008547783082158000861b7d3087297ee586b579ea82d17c1880d57e418a45800088e87c7484447948794880008e2d80008a0a80008bb87a797a798000921580008a06800087d082ca7c64800086667c188b6980008bb87b007b007e96827e7d30860980008cd08000833078307e96800085477c1883797c1883e87c187e967c1886b57c1883e880008a037c188000800088e8800082157c188449744883e880008a0a800085967c187d30800087d0800082817c1888057c187e6180008bb87c188f517c187c187830804c800088eb783089f1800087d075607c18783085036d907c1880008bb878308718800085b8783086b57d308cd0783083e878307d33794888e87830837979f48deb7a547a547e528a0a75a4854478308831799a7d207ab1828178308413783081187aae8108800083e87d30897e78308249800084f08000906c8000800080008434843480008000800098887c188000800098887c18800089a0800087d080008b0078307830800088e880008bb8800087d07448783080008a0a80008cd0800091d37c188000800082818000876180008c197ea47ea4800083e88000892c800085007830828c80008000800087fb8000863180008674)) (.node 0 (.node 61 (.leaf 5489 0x8000800080008bb8800083e889b985d17f067f0680008bb87c1884e28e9b85d1800087d07e258bb87c1890c9800085d1800080008000800080008000800080008000847a885f87f180008b947d727d7280008977800084a3800089e578307d7280008bb8800083e889b985ca7c1880008da18f3a8000800080008250800083e87c187f0680008dda8890800080008890800087d0800087ff800080fa800084a880008000783087d080008ce185d180c08000847a800089dd7d3f8a4280c27cd8800089777ff387c3783087ac80007c8b783087d085d187f1800085fd80007fb388fe8b527cd384a3800081e28000839b80008b9f800083e880007e6885eb8783800087d07c1889b980007c187c1887d078308000783089f27c1880008f6783e874da847a800087ff7d4188f98417800079d789777c1883f3800086f880008000800083e8800089dd800087ac7448800083bc87b1800087c3765d82157c1883e8783087b7800087f180007dfa800087d080008a97800084a385d17a8080008bb8800080009d41800080007830957180008000847a800085d175427bf188bf8000800089777c23860a800088f974487c1881ba83e8747787ff800086f8800080007c9287b1800083f37fa787ac79f881c8800083cf800089dd81e98215744885b080008a04800087c378307a1280008998800087d07c3987f185b0783080008d80800087d08000892779d279d280008aa586f28977783080007edf7edf80008d1c783083e8800085bc800088f9771d82d5783087b1800083f37e0186f8800082d57f0982f1800087ff800087ac749382d57e4c8a04800083f37c1882157bcd83e8800087ac7c1889dd78307c18800087d080008bb87c1887c381f6800080008bb87c188bb88000827c7c187dba80008984800083e8800089277c1882c78000859c800087b1800080007c1888f97a1984c77c1882f187ba85bc7c1886f876477faa80008a04800083f37c4e87d079e47faa7fdc87ac800087ff7c1883e87a0e81de80008bb87c2383f381de8000800085c6800081e67c1889dd89ae8000800089ae7c1887d0800083e8783081a280008817783088177aac827c783086af7b86842f7830830a7d6f8927783088f978c2804778308a04783083e87830886e7c187f17783087ac783085bc78308bb87c517c5180008bb8783083f3783087d076317df67a1683c478308be7783083e87c1b81de800083e87c1887db783083e8800085c680008bff800080008000858a800083e8800086f2800083e880008a977c18800080008b268000827c80008bb878307c18800087ac8000892780008c567848784880008bb8800087d080008fa078187c30800081e6800087ba80008bb878488018800083e8800085b9800087d0800084008000800080008fcf80008d89800087e8) (.leaf 5500 0x8000800080008bb8800083e880008000800080898c418bb880008d237d837c1880007c1899647c18800080009d4c7c188000800080008000800080008000800080008a31800087637db487d086347c187c18861089c487c480008b9080007c188bb88bb8800083e87e0c85dc8000800080008dac80008000800083e887d083e87ca18089800088b38c41800080008c4180007c18800087d085dc893b8000885980008000800087d0800080007ca1847180008a317c187c1880008eaa783080897c18861080008a3c8000858477a77ea18d2387d080008763783087a878b97ea17e6889c4877487c4800081f48000820080008bac800083e8800080007e1885e87c18800080008bb88d717c187c538dac800080007cfb84cb800086eb8000880b7e798a317c4a87c77b797f618000842380008610783083e885dc8b497830803b800083e874488000800085847c18803b8000863885878a3c7c6d84cd7448803b800087c480008763763c826d800083e87c2489d07ff487c483e87c18800087d0800080009d4c7f44800078309638800080008a31800087d0800086eb74487c90853d8610800084cb70ff834980007f7c800082f077f587c77f918b497eb67f7c7c188638800083e8783087f77c188364744883dc7c1883e8800084cd7c18874c800085e880008a3c7a247a2478308b34800086cd85dc87638000783080008f1c7c188a31800084ca86817b1c80008b65800087d080007f447f5086eb7ebc877d783082f07d0084d0800087318000868c7a24863874bc7d6e80008b497c18868c7c1881a588d387c7800085847151868c7e0c85e8783083e8800084cd800086df800086cd800087d078307c1885dc8ac780008bb87e848a3c80797c187f0f8eaf7c188bb88000800080007f0480008ac0800082f0800084ca86d486eb773886d87e0c86387c18800080008b197c1883e8800081a57c1884d07c188b497c1881f4800085e87c187d6e7c18896c7c1881f4799586cd800087c77ca784f4800081f480008bb8800083e8800080007a2485dc8000800080008bb87c188000800089c47c1886d8800083e8783082ec800087d07830882c78308000783089687e0c83e879d581b1791284ca7b798f0178308000783085e8783083e878308bac7e0c80007d9886cd783084d078308d5478a47c8c80008bb878308074783088dc763c80747830800078308baf783083e87e0c85e5800081807c1887d0783083e88000884480008c1480008000800086d48000829380008599800083e880008d507ac37eab800087d080008000800092e978307ac3800087d08000855580008c3f7c187c1880008bb8800087d08000913c7c18800080008000800084d080008cc4744883e87d9881808000845c800087d0800087d08000800080008f97800087d080008dac)) (.node 54 (.leaf 5930 0x8000800080009388800083a283a28000800083e880008a0e80008d1c80007c188b7287d0800088c180008a817c187c18800080008000800080008000800080008b72854e800088ed800088f07c1880008b7287e7800087737c1887d08000800080008ca68b7283e88000869c8000800080008d4980008000800085f9800083e8800083e8800085f38b727fba80008d95800087d080008fa078308934800089ad7c188000783088c1800086998b7287d08000854e800088c18000873f762581dd896784d480008bb88000850876538197800088be800088ed800083e87a0d81977830896180008773800082b47fba83a27c188bb8800083e8800080008000878a800087d07f35884587167bd280008b4380008000783082c27c18854c8000875b8000854e87ff8bb8744882b17ba383737d0484d4800088bf80008652780283457e4d861d800088c17950850880008345800086bf80008bb883a280f9744883ba800087d07d3588ed80007ecc800087a27c1888157fa3877387a27c1880008b8a800080009efa800080007830972a80008000854e800087058b72820b744880007c1884d4800082c27c1882b17c1880007c18861d800087d076b2865285207ebc800086bf7d0788bf800085087ae382a47f1386e3753988c1800080f9839e868c8000861a80008bb880007ae47c188a74800087b1800088ed8a7478307c188e5c7c1887d08000887786e37a8c80008c57783084d480008000878a820b8000886f748e861d800087057ec982b17f8787577b4d86bf7eda82c2800086527c188757800086e383a283e8783085087c1887577e4a861a800088bf800080f9744887577fe187b1800088c17c187c1880008aa08000853780008bb8863b800080008e88800088a58000859d7c187e7480008a748000861d80008877878a820b7830868c7fba86bf7c188000800083e87c1882a47c1886e378768705800086e38000825e8000861a7c18849e800087d073de825e800087b17c1883e87c1884e17ee086b08000853780008a697c1880008000878a800087d080008bb883a2783080008b727fba8916800083e87830825c800087d0783089167dcd859d7830848f791d83e8783086e37cbf8877783087d07b2b80007830861a783083e878308acb7cbc7cbc783087b17bd2870578308bb87c187cbc797f853778308886783088c97c1880a4800087d074488000783083e878308b72800083e87c188e517bd278308000887480008cfe80008000800086448a2c83e880008acb800083e88000887788778000800089bd8000859d80008bb8878a7c18800087d08000887780008eb386e3783080008537800087d080008fa0878a8000800087d080008a7980008cb184e17830800083e880008c6e800087d086d47c18800080009b12800080007c18972a8000) (.leaf 5000 0x80008000800080008bb883e8800087d0800083e880008bb880007c18800087d07c187c188000848b80008b15800087d080008000800080008000800080008000800089857c18854f889c889c7c187c188000870c800087d08000889478307c1880008c59800082928000849d7c18800080008e3980008000854f8167800083e8800083e880008bb887d080007c188000800078309f407c18800078309f407c188000800083e887d08000872d7830800079e589858000848b80008d4878307830783085748000897083e8889c80007c08800088718000854f800085d974587ff083f8872b800087d0800080b57ff083d880008bb87eaa829280007d7f800087c07c187c1880008bb887d07c1880008fa078308000800087d083e88210800089a88000898580007ea68000859d744885c0800083c57c1883e87a638a037c1881d878d184897448848b8000889c800081d87853840b7db88970744884347df081d8800087d08000854f78307ccd783083e880008a51800087d078307997800087d0800080009b588000800078309388800080008985800087d08000800074488000780d83c57c1883e87830859d80008000800084897247800080008a0382017f118000840b744883e88000889c800082f97c1883e88000848b80008434744886e17ab1866980008970783078e580008ac9800087587d7f854f8000783080008eb180008985800085788000783080008c5b80008489800080007c1883e880008b17783084897c9084608000859d7d3285027c18840b78a8807880008a037c1885027c1883e8800082017c18889c7c18850280008669800083e8800084347448850280008758800087d07c187c188000884887588bb8800089707c18800080008c3080008871800082587c187c1880008ca78000848980008578751080c8783088bf7c1884b07c1880007c188640800084d77c1883e87c18846080008a03791f80ef800086697c18807878308bb8800080ef7f888758807883e880008758744880ef80008bb8800083e87c188000800083e8800087d08fa08bb874487830800087d07c1887d0800083e878308000800087d0783088987a888258783084b079c083e8783083e879c0857878308a287a88800078308669783083e878308a037c187c1878308758783084607c188fa07830783080008bb87830807878308b4074487c18800087d06c7883e8783083e8800083e8800083e87c1887d078307c18800083e880008c8080008000800083e880008320800087d0800083e8800088987b507f38800087d08000825880008e1078307b50800087d08000857880008c5b79e579e580008bb8800087d0800093887c188000800087d08000846080008f286eab7830800083e880008bb8800087d07c187c1880008000977080008000800093887c18)))) (.node 61 (.node 37 (.leaf 5772 0x8000800080008bb880008303800087d0800083e8800083e8800086eb8ad387d0800087d07f1b8bb880008fa0800087d08000800080008000800080008000800080008753800088437c188ade7c187c1880008b5a8000851b800089fe78307c188ad38c60800083e8800086438000800080008f5b8000800080008349873183e8800083e880008bb880007f1b7c1887d0800087d0800087d0800083037c1883e8800087d07830830380008bb886eb80007f838753800089ee7c18893383817c1880008b477cc3887b8a2886f678307bd380008878800088437a5e861678307fbb8b2d8b737d4b851b7e73825b800083a37c188bb8800083e880007f618000878b800087d0800088f885c37b3380008a90800087d07f1b88f880007f1b800086a88000875378bb8473800087d07b2682f680008b477c1883038000854b783082f680018490774b8bf78000830e800082f6800087c58000887b8000822e7448841e800087d08000884378307e738000880680008a0a8000851b86eb7b7980008bee800087d0800087d07830783080008ebb78308753800088f880007b6d86418ad377bf8b47800088397c1887d083748897823d8433800084737830854f7cdf8897800087c58000830386eb7f2670608897791583e8800089ee7621801e8000889778308a0a8000887b78307a8b8000897b800088b5800088438593783080008d63800087d07f8e8a4f7830783080008c3d80008b47800083e87c187c528000885580008433894388f8793c84f474cd846d7c1887c5797e88397e3982218000846d7f1b8e857c1884737c187f268000846d80008a0a7b3386eb8000801e7448846d800088b5800089ee7c187c18800087d07c1883e88000887b8000783080008bb880008ba5800083167c187c1880008bb88303843380008a4f7c18803a800087d07c1887c578e780b77c1884f47915878a800083e8800088f880008221774b878a7e528a0a8000883978d67cbe8000878a7d3c88b57c1884737c1881d98000878a8731800080008ad37c1880007bd28bb880008513800089ee7830783080008f5a7c188772830383e87830800080008b317830880a7b468316783084227c058749783083e87f098a4f783084f47843836180008a0a77798000783084a6780380c67bda88b5783088f873a28000800084dc7830800078308839783085c17f1b84dc7d4385137830885b783083e87a0985367eb2829a7c188ebb78307c188000891e80008bf280008000800083e88a9986b1800087d0800083e88000880a800082c980008bb880008316800088dc86eb7ee1800088b580008a4f8000888e83887af9800080009e5b800080008000968b78308000851380008bb8800089a978307c188000829a80008c21800087d087d080008000800080008c43800080008a4883e8) (.leaf 4714 0x8000800080008b29800086b28741808f800083e880008a9a800083598000808f7c1883e87c188bb8800083e882ca808f800080008000800080008000800080007cd680be800086b280008afa80008000800083e88a3b86538000882f783080007c188bb8800083e87c1882ca8000800080008d9480008000800080ee7c1883e8800083e87c188000800082ca80008bb8800083e88000874180007f71800087d0800087d0800086b286b28000744883e8800080be800087d07d9589dc7c1880007ee2800080008bb8800087127c187fa1800087d07ee286b27c18844780007fa1800089ac800086537ee27ee28000838980008a0b800083e884777d0680008771800083e8800083e882ca7ee280008bb8800087d080007c187afa86b2800087d07c1880be7f71874183598000744883e8783081dc7afa86b28000894d8000808f800086e27fa187d07b5a832a7830808f762485c480008bb88000805f7d06808f80008623800086b278308000800084777d368a9a7e838653817d791e8000885f800087d0800087d082ca800080008000783083e8800083e88a9a80007830800080007830a20a783080007830a20a7830774286e27afa86238000894d80007c18800085c4800086b2717e8000800080007772832a788f87d080007e53800083e8800086b280008bb878307830783087d07eb387d07c1886b283e8783080008bb8800087d0800084a682ca783080008dc47c187c187fd087a0800083e878308aca800086e27536882f7c187c1880008741800085c47afa7c188000894d783087417c18832a7afa8506800080007c188741800086b2783086b27b897dc57f71874180008683800087d07afa7afa8000891d7dc583e880008bb882ca783080008d057c188000800087d07c187ee280008bb8800086e2800084a6735a7f12800087d07c1885c4800087a07c1880007afa85068000832a800080ee7c18894d756685067dc586b27d3680007c1880007c1885068000868378bf85957c18814d7e538506800081ad800087d07c187ee27ee288ee80008477800087d0794e794e80008cd67c188aca800083e8783080007ee283b8783087d0800087d0783082fa732a7fd0783084d678ee84a6783083e87a3c829b7acb86b270907c1878308b298000847778308683783084d6732a829b8000847776838000783083e8783085357ca784777ca784777b89897d783082ca729b81ad800083e87c188bb878307d367ee2859580008bb880008000800083e8800082ca800088be800083e8800086e278307ee27d6587d0800087d0800087d07afa7afa80008683800084a680008f1178307830800080009a3a7c18800080009652783080008477800088be8000891d78307c18800083e8800087d0800086b27c1880008000800080008d658000811e800083e8)) (.node 13 (.leaf 6000 0x800080008fa08fa0800087d080008000800083e880008e0e80008962857a7c1880007c189b588000800080009b587c1880008000800080008000800080008000800087d08c8d88977c1887de7f2b7f2b800088a5800087d0800087d078307f2b80008cce800083e8800086ba800080008fa08fa080008000800083e8800083e8800083e8800083e88000819280008e0e80007c1880008bb87830857a80008a26800087d080008a2680007ec8769e863e783087d07c1880008000882780008256800088a57f9a8b52800083f675da7f84800088e6884c8b1f783083e87f847f8480008bb8800087d0800082d27830811680008e8a800083e880008000800084fe8a53800080008a53769e7e5e80008ebf800087d07f4f8337843381927c7e8ad7800087d0800089e980007ec8783086ef7ced88a57e6e863e7830843f84a5844e800087d07448800083e8800e8000844e83e887d080008b527c1880007830844e7ae78abf8519889780007eea8000852f80008a71800087d089177c187c188917800087d0800087d079c279c280008e0e800087d0800087d080007daa80008a26800088a578308337719882b08e6888c970608116881089e97fc083a8800088c9800087d07830863e80007c267c1888c980008abf800083e880008000744888c9800086c180008b5280007b0280008a5b80008867800088978673783080008e43800087d080008bb879e079e080008a08783088a5800083e887d08223800088c07c1880487c1887d080008698800088c087d087d080008337800083a8706088c080008abf783089e979f97a07800088c07b0986c18000863e744880007d088a7180008867800087d078e178e180008e59800083e880008b5287d080008000924180008bb8800081007c187dc87c188cf08000804880008bb883e87fe37c1889087c1887d07830800080008a808000852080008abf800087d07c1883a879688138800086c17c18871f7c187de18000813878c78867800089e9800083e874488138800083e87c18863e7c187cc9800083e88000866b7c188bb8854d7d7d800087d07c60831a800083e8783081b080008ebd783087d079308100783083cb7f008ad578698abf80008bb87ae08e68754886ed783086c178308000783087398000858880008867783087d0727f80007c53858874487f1078308b077c1887d0800085887e9b866b783089e9783080b17995866b800083e87c1887d07830816580008a5380008df08000800080008598800083e880008bd5800083e8800087b3783080008000880980008100800092507c187c188000886780008bb880008b217830783080007f109f40800080008000986078308000866b8000893580008bb887d07c18800083e880008eef80008499849980008000800080008dd1800085b7899f83e8) (.leaf 5000 0x800080008000925c812c812c80008000800083847c188fa08000844c80007c1880007ce09a2c800080007d4496a87c1880008000800080008000800080008000800083e88000876c80008a2880007e0c800086a47f9c876c7c1887d088347da880008834800083e8800087d0876c7f9c8c1c8c1c80008000800083e87c1883847f9c83848000844c88347d4480008e7478307ce080008bb88af0806480008a8c800087d087d08bb88000795c744886a4800083e87c188000800088347c1882bc7aec82bc80008bb8812c864080007ed4800088347bb4876c800083e878307ed47c7c88348000876c800083e87c1880007c188bb8800083e880008000800083e8800080007c188b5487d0795c80008ed8800087d08000844c78307c7c78308af0744883e87b5087d08000800080008708800082bc800088fc7894844c7bb483847c7c88347448857883848258800083848000844c80008bb87c1880007448838487d087d08000876c744880008000844c800087d08000876c83e87c1880008834800087d07c1887d083e8783080008bb8800083e87c7c8b547c187c7c800087d0783082bc7c7c844c7c188000800087d080008834800087088000844c6c7880007448844c800088fc800081f4800083e8800083e87c1883e878307c18800083e8800087d080008bb87c187c18783083e880008c1c8000876c80007830800087d0800087d08000800083e87c1880008fa0800083e8800083e87830800083e88bb87c18883480008b547060783087d087d08000844c7830844c8000844c706086a47c18800078308708800081f4800086a47c1887d07d4488fc7c187c187aec86a480008c1c800087d078f878f8800086a4800083e880008bb88000800080008a8c7c1887d0800085dc85dc7a2480008bb87c188bb878307c18800083e887d087d08000844c800083e8783080007c1883e87c18800080008b547c18844c7c1883e8800087d0800087d0800083847448806480008c1c800087087830800078948064800083e87c1888fc7c187ce08000844c800083e880008bb883e87bb4800088347c188fa0800083e87830800080008000763c85dc7e0c85dc783087d07830800080007c189f407bb480007c189bbc7830783087d074488000783087d07c1880007c7c8c1c7f388b546cdc7c187c1880007448800078308bb87c1883e87c1883e87c1883e878308708783080c8783087d07c187f387c1888fc78307f9c80008bb8800089c480008000800081f4800087d080008000800083e880008bb8800083e880008bb8800085dc89c480007830800080008c1c80007f9c80008bb878307c18800080009b5880008000800093887830800083e880008bb8800087d078307c1880007f3880008fa0800084b0800080008000800080008c1c800083847c1883e8)))) (.node 11 (.node 6 (.node 61 (.leaf 5000 0x8000800080008c78800081a780008569800083e887d083e88000864f80008569800087d07e7f8bb880008fa07d9985698000800080008000800080008000800087d08471800083e880008b2f7c188000800087d087d080be80008d947c187d65800089dc87d083e88000885f80007d658bb88e5380008000800083e88000814d800083e880008d3982677dbf800084a8800087d08000889080008267783080c0800087d083e8832878308bb880007cd8800084718000881e7c188e09783078f08000849d800083e87fd087a078307c18800085f4783083e8800089ac8000800080008a6b800080be80008477783083e8800087d0800083e880008000800087d0879e87d07c4a8a11800079d7800087d0800087d0800089517c187e7f800083e88089847179ed85a5800087d079d381a37ccd849d80f083287ffe8a21768d81a3744882278000881e800087a0800081a38000868378308000744885c47dbb858b7830859e800083e88000808f7c1889737fbe8957800080be88127c187c188d5b800087d0800087c9783078307c1f8bbf783084718000880280007e7f800087d77448849d7d99856980008593800083ef7c188227800085a5800087ce783083ef7a6784d17c1883287c1887a0800083ef8000859e8000881e800081dc744883ef800087dd7c1880008000808f800087d080008bb8800083e87830783080008bb8800087d08000863b783079e180008b9c8000849d800087707bdf7fc7800087b47e3f82278000880281de8593742c83cc783084d17830856987d087ce7c1880008000859e7c1885a5783087a080008000800087dd7c18871087d081dc7060800080008bb87830881e8000808f7fb27f23800080009c3580008000783093887f2380008885800083b77dc97dc980008983800084038000863b7c1883af8000859b800084d17ef987707d4e8593780081b37dce859e800088027c1887ce7a627e1a7c6787dd800085698000882977e17e1a80008bb87c1885a57c1881dc7c18804f83e880007c188af87c1883e880008437800086f38000881e7c187c187c67885e7c1887eb800083e8783081b1800086047830861f7be783b7783087977861821c783089867a83863b7830859379c57e34783087dd78d78770783087ce7b717c6d7c188bb87830880278308c11783080007830800078308569783083e87c187c187f2386f3783088cc764a85ea770b7dde7efa82e27c188ee078308000800081c680008a078000800080008599800083e880008d6e8000861a80008b7f8000880980008a3e800083b78000897b74487c1880008bb88000863b8000896578307830800083e88000877780008ff978307830800086f3800089a9800087d07b1c7b1c800082e2800087d0800089d27c187f048000800080008cb4800083e87c1882ec) (.leaf 5333 0x8000800080008fa0891d829b7c188000800083e880008bb8800087d07c187d6580007c1897707eb3800080009a0b7d65800080008000800080008000800080007c1887d07c1883e88000891d7c188000800087d08000814d80008bb87c1880007c18891d8000829b8000891d8000800080008d0580008000800083e887d083e8800083e87d65853580007eb380008d0580007c1880008bb8800083e88000891d8fa087d0800087d072fb8000783085357c1887d078307eb380008a6b800083e8891d83e8800083e880008683744883e880008535800083e8800087d07c1883e8800087d08000814d8000853580008683800087d07eb3829b8000800080008a6b7c18800080008a6b891d7acb80008fa0800087d08000814d8535800078308bb8800087d0744887d0814d7d65800087d07acb829b744883e880008683868387d07d6585358000800076e38683800087d0800087d0853580007c1883e8744887d0800087d0891d83e87448814d800087d085358bb88000814d80007c1880008bb8800087d0800087d08535783080008d05800087d07eb38683797d7d657d65891d7830829b7c18814d814d80008000853580008535800083e87eb3868372fb853575958535800083e8800086837c188535800087d07c1883e87c1883e87d658535800087d08000800078308000800087d080008d05800083e883e8783080008bb8800087d0800083e885357830800090ed8000829b800087d078307d6580008d057c18853580008683853580007448891d800085357c1883e878308683800085357c1887d0800083e8800086837830814d7c1887d0800083e8783083e8814d800080008d05783087d0800083e880007c18800080009df380008000783094d57eb37c1886838000853580007c1880008bb87c1887d0800083e88000814d800087d07c188535800087d0853583e8744883e87c1887d07c188683800086837c188000800087d07c1883e87c18891d7d65800080008d057c1883e8800083e876e380007c1880007c1883e8800083e8800083e88000853580008bb87c187c18800087d07c188bb8800083e878308000800085357830891d7d658535783085357830814d78308bb8783083e8783087d07c187d65783087d0783087d0783087d07d657d657d658d057830868378308d057830800078308000783087d0783087d07d6583e87d658535783083e8759583e87acb87d07d65814d7c1887d07830800080008bb880008d0580008000800083e8800083e880008fa080008d05800094d578308000800087d08000853580008bb87c187c1880008d05800083e880008bb878307830800083e8800087d0800090ed7830783080008535800087d080008bb87c187c188000814d80008bb8800087d07830800080008000800087d0800083e8800083e8)) (.leaf 5495 0x8000800080008ceb80008341888c854a800083e8800083e889bf885c8000854a7c188182800086da7c1887d08da7854a800080008000800080008000800080007c6887d07f548724868386838000800080008bb87c1880007f3e8bb88a807e07800087d0800083e87c188bb880007e0780008d058000800080008683887181ef800083e8800087d080007f5980008a658000818280008903800084747830867d85d787d078308729800083e88000829580008438783086da80008bb885d77ead80008968800083e88000856a76377ead7830848980008724800087d085d781f97a1f89bf800080008bb887d0800083e880008724800083e88000829b89bf87d0800081827e418b6887957b7180008d1a800087d0800083e87e07808c80008932800086ef800087d07d85816d7448854a75e0896880007f95805687d0800084aa854b84897b2286da7d9a856a783084aa7c1889bf783080008000870e800084aa7f54833c8000872481d983e87cda872f80008bac7c18800089bf7eb380008b17800087d07e3d86ed8000783080008e897c188438800089f981ef7ca480008aa180008968800083e876c3816d7f7386b9817a848974bd845d800085d7800086b9800089bf80007f957c18856a783086b978bb7fdf800087d07830870e800086b9800088468000800085d78560783087d0800087d07c18872486837acb80008bb87c18843880008bb88000783080008d57800089688000860d85d779b37830896f78d18489800089f97d65816d8000858785d789bf7c1883e87c1885d77830819f7c187fdf8000845d783086b780008000800088468438837d8000870e71ff8000800087d0800087d081ef83e87c188000800080009d478000800078309577800089bf8968800087d07c187c188000882681ef887180008bb87c187d0f8000843e800089bf81ef860d80008555744880567c18808b800089f97a1f85d7800080007c8e88467c1883e880008a9f76da7eaa800087d07c18845d7a1f870e8000823b85d7800080008765800083e8783086238000839b80008bb885d77c1880008a0b7c188c597c187c187830800080008d0578308c59800087d0735178307b15891d6fd57b4d80008bb87850893d7e728535783088467a1e860d7a2985d77a1f814d783087d0783089f978308e877e07814d78308000783087d07a298af678ee82b07bcb839b78308712774186e17b5a83e87e72825a7c188b4d78308000800087d08000904180008000800085358535800080007f359d477c1880007c189a2a7c1880008852800087d080008d2585557830800087d080008bb8800089bf81ef7830800083e87e1286f08000926f87c478308000839b80008a4980008ede85d778b48000825a80008bb880008ac980007c9c8000800080008afa800083e88a7c8084)) (.leaf 5940 0x800080008dd98dd98000859a7fd883c07f87836f800087d08bf58835800083c0800083d4800083e880008bb87c1883c0800080008000800080008000800080007c1883838f6387f87c188fa080007c1880008bb87c1882cd80008c9688ae7c18800086a1800083e880008caa8000800080008bb8800080008b7b8793800083e88000836f800089098abb81b2800089097c1883d48b7b89f18000844d80008521800087d08da7865a800087d0721c81397c1883837c1883e87c1888b8800080008000882b800083e888178bb877ad7f687a8e82b9800087f880008c9678307fec800087d0800082cd800088c27fec83d47c1887e4800083e88b6783ab800087bc7fec83d47c1887d08b907dca80008dc5800087d07830852187938065800089dd80008383858689d3744883e87e2585f58000882b7df3865a800084d07a0183de8000825e800083e883a187d0745283de7b0786bf7830800080008c96800083de800084a8800087f8744884da7c0e85b980008b027ee582cd88ae7fc3800089a1800087d0800089c9859a79e280008bb87bb38b16800083e8899780657a7a87d074a3882b7c188521800082038738863274a3825e7a3389d3800084d080008632800086bf8000865a7fc383e878308632800084a870237fc380008c968000863280008982800080007c18811178308ca07c1883e8800087f88b537bdb80008f78800087d0800088cd87ee784e7ea98e498000882b800089c974487adf80008a617fa5838d783080007a338203800086797c1886bf800085217d0088c27830829178f084a8800089d389648000759f80007dca89827c18865a7cf68c967ac17ac180008000800083e87d29811178307c18800080009f03800080007830973380008000882b8000865a87937c3680008c7880008775800088cd7e627e62800088907c1886bf7e4e89c9800082037cd884a8800084a8800089137c1884d0738884a8800089827d8e852178308000800084a878307c187c1889d37c188c96879384a87c1880007c188a428000811178f087d0800087d0800087937c187c1880008bb87c188b5d800083e87830801e800087d078308aa77e8a865a7830824a796983e87830887c7d1588cd783085eb7adf8000783089827bdb89c9783087d07c187c1880007c18a2eb783080007c18a2eb7830783080007bdb87d078308fa07c187c18800087d078308b9a77f383ca78308000800083e87c188f6378308000800083e880008e8f80008000800084067c18849e80008c64800083e880008632800080b680008a388000865a800089d378e67cce7c188000800088cd80008bb87c187cce800083e8800089c97c188000707e8000800087d07c187c18800093887bfa7fc3800083e880008bb8800087b27bfa7fe28000800080008f82800083e887b283ca)))
def tree_w_61 : Tree := (.node 2 (.node 1 (.leaf 5736 0x8000800080008e358000844a883283e8800083e87c1887a1800086f68ade83e88000800080008000800080008000800080008a558000850c80008aef7c187c18800088fc800088848cb88cb87830783080008ba97c68843880008a6f86877c187c188ad4800083e8800087ab8000800080008e79800080008000840787ef83e8800083e880008912896e80628000890c800083e880008a4d8000830e8000852480008a557c1883b98000871e7448813c795c88fc7c1887d080008707859c7dc478308ac87830850c800088d086947dc4800086ec800088847c8786877c18807080008a14800084388e9883c37830845880008a20800083e87830801f80008840800083e87ead8a6580007c7a881b8ba17e9d8a55797c853480007f2686df87b9800088fc7e95866578308336806283d17f108ac8800083347448849a83cf83d1783086118000875682e085307c1883d18000891d7d3c850c80008457744883e8800086387ccc888480007fdb800087d080008a40800084387c377c3780008bb880008a55800087d07830789280008bb1800088fc80008a6578307b3e800087c980008ac8800085347d9d8185744884e6800086117739856e7c1883aa800084e67d65891d7f4c83347c188530782984e67df285cd800087567c1884577d1d84ed7e888a4085ec850c7a837e46800088d5800088d7800088847830784f80008cbd800088fc800088ff7830783080008c3d80008ac8800087d07b7b7b7b800088558000861180008a65800081857448846d7c18891d7c1885347ef883aa8000846d7c2385cd8000856e7c1885307830846d80008a40755083637c1884578000846d7c6488d77f8687567c187e6b800087d0800086608e3087d078307c7f7c9d8bb880008ad7800084907c077c0780008af97e4186f4800088ff7c187f63800087117c18891d800087d07c1882387b7383437c1885cd80008a6580008473753681c380008a40800085347c1885307b1081c3800088d77c18856e7c1885a17ab18281800086608000874b7c18825380008669800087d07c1887567cf07cf080008a517c188adc800083e878307fef800087b478308ac17cc084907830834b7a6883cc783087657d4788ff7830862079e07fe478308a40783087d078fb885b7e2d7bfc7cd388d778308a65783088197a557b137aa88660783087da783089897c7f7ea4800087d0772885d07830863b7830828c800083e87ef88b33783080d88000867480008ea980008000800083d7800083e880008b4d800083e8800087337c18800080008bb88000849080008a0878307c18800088d7800088ff80008c43784f784f80008660800087d080008c0178117c37800087d080008bb880008d71784f801f80008aa580008bc2800092618000840780008000800089b8800084c0800087ef) (.leaf 5267 0x8000800080008bb8800084f2800083e87d4f81378a788690800088e3800083e8800080008000800080008000800080007c188653800087d080008a577c187c1880008638800089df8c4b8c4b783078307c188bb888da84638000886080007c187c188954800083e8800087578000800080008bf180008000800084ba800083e88000813780008a8a88d2810a800087c7800083e8800087d0800084fb7ff783df88d28653800084ee800087d07451818180008638800089547830866f84f27cdf8000888c783086bb8000886377607ce88000856c800089df80008478790080d080008809800084637f87836f800084b880008760800083e888da80ab800088a0800083e8800087e288da7d227c188ba687c78653800086a2794381137c18868a769886387c1887d0783083e8800082a278ec888c744884ee80008491871982877f84836c79b489548000854b7463828777698709800086bb7b318301800083cd7f9083787e2789df71897f87800087b5800087d07c93846380007cc37c188b9d80008653800087d084f2793a80008d35800086388be587e278307d2b790d894d8000888c75f782ba7c1883e8800085657c18836c800087d078d98491800084c580008709800084ee7aa383d6736b84c578308378800089547c188301800084c5800087d07eeb86bb7c187ed780008731800086c0800089df783078db7cf58b19800087d0800086d078c678c680008d2c8000888c7dc785977c187d2b8000894477c6836c800087e2800083e87d8c855c80008709800081af8000849172d48393800085597c1887d0793a83d680008393800087d08000862e7c18830177db8393800086c0800089547d227aef8000860780008bb8800086bb78307830800089ef8000888c8000837e7c187cae80008bda800085d0800086d07c188000800087f27c18870980008597800083e87448840a7c1883e87c2a87e2800085f27c1880227c1887d07c1881af7e1a83d67c187fa87ef086c07bcf87d07c18865a7e7b7fa880008bb87d1e8a167b567b56795e836e800087d08cc2895478307c18800087567c8289b8800083e8783080968000865c78308ab87bae837e783083e879a4827477c687667b1886d0783087d07aa47e8c783087d078308597783089da7d227d51783086c0783087e2790c872b7c467ec580008bb8716a7bec78308a427c1882ad800087d078798bb8750a7a76783086957c187c187c188dfe7c18800080008a7d80008ea0800080008000847e85f2817480008b4e800083e8800087d0855c7d8c80008bb88000837e80008bb884f279a4800087d0800086d080008dc284f2783080008bb88000859780008b1383437830800087d080008bb880008e2a810a866980007c189a1d7fd480007e5e98a67c188000800080008fa0800084f284f28000)) (.leaf 5684 0x8000800080008c94800084c4800083e87f94837c8000876c8ae88764800083e880008000800080008000800080008000800088a47c1887d08000884080007d80893887d07d5c891480008bb88000799880008a487cf084c080008b14872c7c187c188a7c800083e8800087d08000800080008e5080008000800083fc87e483e88000837c800087d08a7c80dc80008a0c800083e8800088ac8000837c7a6c8624800088a473e48384800087d08000823c800087d080008bb88000845875f47e54800088807c1887d0800087d07e147e147c1886b8800089148000872c74887f3c80008a68800084c0800083e87f3c832480008b2c800083e8800080148000870c800083e87df48bb886947cf4800089a0800088a47a1885d084ac7f94800085b880dc87d0800088ac800083e8761881d074f88880800083e8800081ec800081d0800086b880008bb8783083e874487fdc75a4892c800087d07b748344800081f48000874480008914744880007a2485dc80008b84800084c085f07c2c800089c47cec88a4800087d08000790c80008cb4800087d0800087d078307bac80008ae880008880800085d082ac8300744884e4800086b8790c88ac800081ec7c1884e48000892c7830827c800083e87c1884e4769c863c80008bb874487f5c8c1084e47de4899c800087d080007cf880e087d0800089248000891483fc784480008bb88e6487d0800087ac7830783080008e8880008880800087287be47be478308aa87ee886b8800085c4783083007cd086b88000892c800085d0783081ec7ec483648000863c800088ac744883e882ac83648000899c7e94827c7c188000783083648000892480008bb87bfc7cdc8000847c80008b24800087d080007adc7c188864800089f08000857c7c187c1880008ab07c1887f4800087ac7c187fcc800086c88000892c78d08728800083007e2482e08000863c7c1885c480008754783082e08000899c744885d0800083e8800082e0800089247c1888ac800080007adc83e880008b248000827c7c1880c4796c87d0800080007c188bb88a7c7ec480008bb87c188bdc800083e8783080008000867078308a7c7dac857c783083b479488288783086c87bf487ac783086e87b007ea07830899c7eb887287830894c783c7c2479848924726c80007c1887d07dfc80007f6c8b24800089b870607fec7788816c7830800078308bb8783085287ec48554800083e87c188664783082ac8000893c80008e6480008000800083e87c1883e880008ab0800083e88000879c80008000800089d08000857c80008ad078307c1880008924800087ac80008d347830783080008b248000872880008bb878307830800080009e0480008000800096347830800083e880008da08000889484ac7c188000800080008fa08000869486948000))
def tree_w_62 : Tree := (.node 5 (.node 58 (.node 40 (.node 59 (.node 38 (.leaf 5119 0x8000800080008c2f800087d0800080008000800080008000800080008000800080008286800087d0800087007c1882a97c18851d88478631800089f180007ec180008bb88000884780008dce8000863180008bb8800087d07c188b62845f80008000871e800083e87ea0867089a7828889a789a780008000800083e882888670800080007c188999800083e88000867e7ab6828680008712800087d089a882968000851d7c5d88937a4083187c18829680008bb8800087788000860974487ac6800087d07e61863185fe89e678307c188000843e800088477c18877a807780007c1685bf884887d080008288800083e880008847800083e887d08000800087d0800082868000884778308000800089327d4d851d800085b1871283e87830854a7c188bb8774983ec800082108000824b800087d0800084ab744885397a7b824b7c6e843e77d88778807985fe8000824b800083e6800086317e758392744884d18000845f8000884775a87ea0800088b980008a02800087d0822d7c1880008ca18000851d8000845f78307c187c188e6b80008bb87fe18847809580007c188a83744887d07bb483847c1882108000869b7743843e800083ec7eb185397ecb869b7c1883e68000842d778285508000869b7bbf838f8000877884b8825d7448869b80008a02783086317bfc7bfc800087d0800087d07c8f884783e8783080008bb880008bb88000845f7830783080008bb8800087d07c8f845f83e880007c1887d07c8f84f080008847783082e0800083e87c1883e680008384845f8539744883737c18838f791c83ec800085507f8b837380008a0277b9842d7c18825d80008373800087d0800087787c187d5c7c18875b80008875800087d087a278777c188b43800087d0800087d079af79af80008ab0800088d88000845f7c1880007ba186c87c1885f88000845f800086c878a782e07c18838f7cad88477eb887007d4181297c8f8a027c1883847c18855080008129800087d0800084aa7c1882b374488231800088758000842d7c188144800086198000823e7c188b6086617c5f80008a017c8f8cc0800083e878307d97800085c0783089e0800087d074bf8077783081d87830870078a7845f78308ab07c187df079eb8a027830845f78308ae87a3f7ab6783087d078308847783087227c8f7cc67cbd887576ce84417830869b796480ae7a6e823e78308892779c84987ae48496800083e87c8f8752783080478000887e80008dc8800080008000817f800084b880008ae8800083e88000845f783080d080008bb8800087d080008e9880008000800087d08000845f80008ed07518790080008875800087d080008b8a783078308000823e80008bb880008a8378307b85800083e880008829800088807b857f6d8000800080008c7a8000842f80008355) (.leaf 5733 0x800080008e548e54804088108000800080008000800080008000800080008000800087d07c1886c58bb88bb87c187c1880008aa57e2a85fa80008d9674487830800083e8800086c580008d8f8000800080008bb8800087d080008da07448800080008848800083e88000864c800083e880008bb8800080008aad82dd800087d08000800080008bb88000842880008684800087d080008bf8800080007eb4829c80008aa57c1883e87a8f892478307eb4800083e880008549800089ae7830800080008a33800085fa800089a778a87c9080008570800086c578e089b880008078800087d0800087d080008264783084607c188b40800083e880007ef580008848800087d08000829486c5804080008bc07eed8aa5783087d083f07c18800087d8744880d17a63868488798924800085ec80008a338000800074488645800085ec74488570800085497def85bf724485ec750f84af800085fa800085d07e1c85ec7c1887587b0d86c587d07e7c800089cc7e678a1f83e887d08476800080008db480008aa5800087d087d880407c18800080007c18a21d7eac800078309ba07c1876ab8a337fc683e88883892478307f267da085708000861b8000864574488000800084af7c188000783085bf800087d08000837075a9854980008498800087d080008a1f7c1885fa82dd7a9480008bb8800087d0800086c58aad78307c188fa080008000800086c57448787080008e4880008a337a5685b97c187c1880008a6080008570783080017ef58924800087d0800084af800083ae80008645742587ad7b1382e37c118614800085bf800087ad80008a1f783080007c188498800087ad800087d08000865586c57c1878308905800089777c1887d0851d783080008ced80008a33800086c57ac47ac47c188aa8800088e0800086c57c188000800086c07c1884af800085b97c1889247ca082d8800082e3800080007e75864578af82d880008a1f7c1883ae7c1885bf7ef582d8800087d07c1886147c1884987ef583e880008977800083e87c188000783089058000845880008a3d7c187c1880008bb87c188cc8800083e878307eac80008709783088977ef586c5783083e8783083217830835c7b0d86c578308d0c7c187f3978308a1f7bc485b97830884f7b617e3e783087d0783083e8783087d07ef57f057dbf897777fa837878308698799b82dd7c88845878308760783083e87a9d86c5800083e87c1887d07830800080008aad80008c7f800080008000829489e5875180008744800083e8800087d08000836980008bb8800086c5800090f483e87f81800087d0800086c580008c3786c57b9980008977800085b980008bb878307b7c80008458800087d080008ad97f647f64800083e880008760800087d07830834c8000800080008b48800083e880008734)) (.leaf 5497 0x8000800080008da987d087d080008000800080008000800080008000800080007c187ec680008bb880008afb7c18800080008549800087177c188d0189c17c18800080009d498000800080009579783080008bb8800087d080008bad78308000800089cc800083dd800087d087d0800080008bb880008000800085d989c183e8800080008000887489c183e88000891d80007ec6800089c1800087bd7830853580008549800087d07830871385d9814d759580008000891b800089198875800085f187d08000871778188b2380007b6f800085e485d98000783087c580007e09800087d0800087d0800083e87c1881f1800089d27ff583dd800081f17c1885d97c1880008da989c1800080007c188bb8799185497cba848c800083d5800087d07eb3829b7a3987257d4c851c8000869d7caa847a800085327b7085317448869d7df185c18000891b784880008000869d7c1883e87f4787177c1883dd7ae5869d783085ea85d980008000800080008a857c188bb8800087d081f1800080008e6d80008549800087d085d97c1880008c49800083e880008874750880ad890188707448847a8000848a8000851c81f185d5726f834e800087258000853183ca85d5783083e8759285327eb57eb589c385d57c2983f97593891b80008290800085d58000891d7c18871780007c1881f1892c8000887685d983e880007a2180008d147c1887d0800087af85fa798f80008c6b8000847a800087d0800080ad7e0988838000834e7cbc88748000851c797d849b800083e87c18848a7a218531800087d6800083f97d4b87257c18829d7a2b87bf8000891d800085327ea882907791849b800088768000891b7e097c18800087d08000891b7c1887d0848e78d680008bb88000847a800087d07c187d7780008bb87f66853a800087af7c1880c0800087d07c1883e8800087d07c1885d97c1883e8800083f980008874800085c8744883448000891d7c18848a7a21848e80008344800088767c1887257c18829b778c83448000891b800085327c1880008000872c8000848c8000891b85d97cbe80008b147c188922800083e87830815f80008710775586f5800087d07714838c78308328771a84c97bf787af783089c17b587f40797d891d783087d0783088727c1a7c1a78d6887678308874783088767c187c1a7d63891b763b85d9783086837acb80027cbc848c7830891b783083e8797d83ea800083e87c18891a783080a6800087d280008add800080008000854780008554800088b1800083e8800087747830816c8000891d800087d080008da98000800080008876800087af80008bb875b4799c8000891b800087d080008c5e783078308000848c80008a6b80008a6b78307c18800083e8800089c1800087d07c1880008000800080008d038000848e800083e8)) (.leaf 5459 0x8000800080008d078000884c8000800080008000800080008000800080008000800081fc80008bb8899b87d07c187fce800085fd8000891380008a5c7be67be67f8387538000897b7c18886e78307c1880008bb88000800080008f5578308000859481ac800083e880008bd7800083e880008d838000800080008000800087d08000800080008969800084647fb587857e1481fc8000891f8000869a8000839d895085fd80008bb8800083e874937fb580008753873e8918783086747e747e748000883181cb89b6800084ac7c187ebf873f7dc48000897b80008b6d744882a78000899b85b37d3b800087ef8000868f80008adc800083e880007c18868f8a777c1881fc800087d0899b807c80008b0a800085fd79c98581800082b280008722800087538603872e7bc883987448833a74a98831821788848000854b7f527f5280007dc4800088ed800084ac73768000800087d084e18913744887857cea7cea800086f48000897b85b38407783080de800080009d237d3b80007830981880007c1885fd80008709884c7c9480008bb8783087538000876685b37eca800087d0800088318000858174988398817b84087c1880008000872e7993854b80688408747a841a81998884800084ac800084087b3c830c794d88ed7d8185518000840880008000800089138000801f783087f0800087d08000897b8000783080008bd8800087d0871685e3800078ac7e9d8ef3800088317e0385c57fe07e8e800088ce74cd83e87f9687668000839881b0866d8000841a800085818000854b7613866d7830830c7de3872e800084ac8000866d7fae800080008884800085517665866d7d1084e0800088ed80d37e2e80008957800086d0800089138000783080008d3f80008831800085cb85b37b9380008bc3800087d0800085e37c187fc4800087db7c18841a7ff285c57fb087807a5883f3800083527c188766800086a779fb83f37c1883e87c1885817c1887f6800083f3800084e08000872e80008551744883f3800086d081cb88847c187e2e800087d0800084957c1888ed87d07c1880008bb87f7b8bb87e67824f78307f7b800087d0783086377dfb85cb77e78363786183e8783083e87a2b85e378308b877be78000783087d0783085c578308a8f7c187d2e783084e07830876678308bde7de37d2e7b1886d0783087d07830859c7afb81167cc58495783089c8783081f8794d84fe800083e87de3888478308000800088e680008a1f8000800080008363800087d0800087d08000824f8000874b899b83e880008bb8800085cb80008f5083d08603800084e0800085e380008e7785b37c18800086d08000868c80008fc685b378308000849580008b4e8000898485707beb800083e880008bb8800085e085b37fd38000800080008db0800083e8800083bb)) (.node 6 (.leaf 5187 0x8000800080008dd78000866c80008000800080008000800080008000800080008000857380008789800088717c187ed67c1886d2800087d07c188ab380007aee800089bc800087c980008a8d82bd7830800080009c137c1880008000982b7830888b8c73800083e8800087d080007c188000903c800080008000840780008000800080008c738cdd800082847c1884e280008573800089ef800083e8800080fa7f0286d27c188bb88000848980007d307c1889bc80008648800086cb80bb7d3080008000800087d0800086a57429801f8000888b800087c980007fe87c378407886c8c5480007c18783083e8800087ef80008466800083e88000801f80008bd77da38573800087d080007e9c80008864800086d280bb88f57c1880008000847c800089bc7ef186c17abd80a17b5583257c188000800087d079da82e3750b83258101881874018648800082bd800083257d96886c783087d080007d8d7f3d86797e308218867387c98000800078308a61800089c38000800080007c3780008e49800086d2800087d080007ab480008aed7e0489bc7af886b078307cd38ba787057c1883e88000860d800080a1780783bf7c608818744886c1800081aa800083bf8000866c84a3875b800082bd706083bf783082187ebf868f7e148000800087d0800087e8800087d078307c1880008873800087d0800087c98000784f80008c5b800089bc800083e88000783080008bb8783087d0800087d07cd37cd379ad87d078308818800086b07ad37f5b820086207c18866c8000860d783081aa80bb862080008218800086c1783082bd7cd38620800087e88000875b80bb7ee174488620800087d08000868f78307bdc80008a088000865384a387d08000783080008df080008bb8800084a3800078b480008b3480008818800083e87c1880f67ec2874c7c18866c800087d07c1882a37cd383647c188583800086b0800082af78eb82657b9787e87c18860d800083e87d548265800087d0800086c17c1882c978eb82e9800086537c18875b7fc47fc4800086d1800082fb80008a7788537c187c4f8ab97c188b45800083e878307c9c8000887a7830866c7cd384a3783084a3783084927830896b77ec83a47830868b7d1780aa78c987e8783087d0783086977c397df3783087d0783086b0783087d07cd37df37a9b86537830860d783086b17a6881327b2b82fb7830888b782883a479e0851a7fff83e77c18875b78ec800080008902800089b7800080008000808480008a0880008d53800086f08000888b80008bb8800089dd800084a380008a7380008238800087d0800083a480008a7f80007e5080008653800087d080008bb884a37a68800082fb80008a9880008a9984a37c18800083e7800088d08000878c878c80008000800080008c73800083e8800083e8) (.leaf 5288 0x8000800080008cd887d087d080008000800080008000800080008000800080007f1a83027c188a19800087d0878d7fbd8000833b8000888380008d1485087bd57c1887d088f08a6b80008a3d80007830800080009c787c18800080009890783080008a34800083e880008a74868c7c1880008efe80008000800085a985a98000800080007eda8bb888f083e88000850880008302800088f0800087977d38812088f0837080008bb8783084607c188120800085e58000863182d9892c7a5f7f668000800078e38883800086557328822f8000876b80008a6b80007cbb7d3886178000880580007c188000868c800089ff7c18811888e883e8800081c180008de77c188302800087d080008000800089d67c18833b88f087d0783083af800085ee800085e5762385c3800084607ccf849f74488000800087d0800085447c18849f8000876b800086317a9d826d7830849f7865880580008883778d7d9e8000868180007d30864c8a6b7ad482a47c188a698000887d7c1880008cd87dd97c188e517c1883e88000872388f07c1880008d857a2d85e58000855f7bdf7fc78000899d7c1883e8800086aa78a884607de585b58000876b800085c382ed84a9727b82d0800088057f96876679ba826d7c1882d0744880008120863180007c82800082d07f8e887d80008883758c7ebc800084eb7fa987797eb38a6b82c479f1800088d3800085e580008bb87830783080008adb850887d08000872380007ec2783086f37830876b7d8f855f800084607f95837d800088057c1886aa7950827b8000837d7ec282aa800085c37e76826d7830837d7d38887d783087668000806a8000845a80008779800086317ebc7ebc78308842800086408000888379ba79ba80008c2a8cd88bb8800087d078307c188000850888f088f080008bb87c187ec2783081207c1888057d388723800088487c187d38800082aa7c18855f7cb3827b76e97c698000887d7c1886aa7c1883e87a968198800087797c1885c37c1884527b4a831a80008640800087667c1880008000870288f0844c800087d07c187da280008aea7c188cd87c187c187c18800080008bb878308bb8800087d0719e79507bfa87d06db6783080008bb878308c307d3183e87830887d7a4b8723783085087b1d8000783087797830855f783087d07c1880007a88864077b3862d7830883a7b5c80007c7c844c7830888c783083e878ec83e8800083e87c1887667830818a800087d080008fa080008000800083e88508812080007c189a387c1880007d389c787d3880008bb8800087d08000901881208000800087d080008bb8800088f08120783080008640800087d080008e68850878308000844c8000894780008c2285087af2800083e880008a15800087d086aa7eda8000800080008c7480008572883482c2))) (.node 30 (.leaf 5425 0x8000800080008e088728872880008000800080008000800080008000800080007c1880007c87883f80008b1b8cf281d77f0583e880008a4480008916868b7def7c1887d0800089d98000898180007a077ce38a447dc1859180008944855c7c1880008aec80008314800087308000800080008d6180008000800083e887d083e8800080007c188ac8800083408a688728800080007f728a20800087d080008340859182ed80008bb88000873378307f587f4187118000883f8000852e783080b380008a447aa48a448879859978307b0f800087047e2189d98000855c78307ef77d8c89798805859180008348800082df80008b557f2c8314800080007ef786c77c1880007ebd8a758abb7f5880008b637c1882ed7c1886e0783083e88000877b80008711800087427b7b834b7448839380008a44800089fc744881467fab7fab7448831c8000883f800081b178307fab7c4d897980008a4479a4817480008000800087f6800089d985917f60783083e87c188bb88000859183e87c18800087d07c1882ed80008d07853d7b70800089cc800087118000871c800081207a2c85e479d98a44800084997c18834b800081fc7b4c805474488742800081467bb8819c80008979800089fc7a87802074a8819c800087f67830883f7830817480008388800087d080008a4478657bad7bb887707f0687d0800089d98388783080008b587c1887118000897984a7783080008c7780008a4480008d077d3881208000888f800081207ca6871c78cd8000800087d080008979800084997d5e814672d485d9785687f6800087427c188020800085d9800083e87e4489fc8000817477ad85d9800087d08000883f78037c2080008902800085d380008a44851a783080008cea80008bb8800080007c187c1880008d6181a98120800089797c188120800089797c18897980008d07749c79217dc18591800087f68000871c7c1883e874d682377c1883e87cc98cbb7c18825780008237800087d0800087427c1883e879d98237800085d37c188adf800080087a6f84768000850280008bb87c187c188000885e7c188508800083e87830800080008c4178308bb878307c18783085087dc18859783088597dc18979773f7eee7921847174487fd17d678d07783087d07c728089792a87d07830871c7830863f7cc780067a1b85d378308589783089cf7bd680067d328502783088d9783083f078be8365800083e87c1889fc783080008000874d80008fa080008000800083e88000800080008c41800083e8800088f078307c1880007fd19d017c188000800099487830800087d08000897980008bb878307830800085d380008d0780008a2778307830800085028000885e80008bb878307c18800083e880008971800087d87c1880008000800080008d61800083e8800083e8) (.leaf 5374 0x8000800080008df4870a870a80008000800080008000800080008000800080008000867e800087a97c18896980007d6e7c3887f07c1887d080008bb88000798680008cb07c1887d0800086d8800079a5800087d0800083e880008bb876bb7d8d800087d0800083e8800087d08000817580008bb880008000800083e87d8d855d8000800080008d688b7e83227c1884748000867e89458a0c800083e87c18808c800087f080008ae97db185817c187ca47d108cb07e7c864c800087d082017a31783083e8800087d0800083e8855d7d8d800083e8800087d0783087d080008175800087d0800083e8800083e87c18855d800087d08bb883e8800080007c1889457eae867e800087d086b07f3a80008776800087f07c528980800080007fa6838e80008cb0855d870f8000819970607fa67c1880007c0a87c2818487d07c18856c7c1883e88000864c74ef80a78000817583e88737800087d07c1883e875bd8175800087d0800087d0783080008000855d89458bb87c1883e880007c1880008945894587f08000800080007f3a7c188c7e80008cb08000846681757c187c1887d08175800080008980744880008000855d70607c188ccf870f788f84478000855d7c188737800087c2800080a779a5855d800087d07448864c7d9c81848000855d800087d0800087d078307c1878308945800087d0800087d07830783080008d2d80008cb080008bb8807e80007c187c9680007b7fa4207c18800078309d6778ae7c187f677c9684667e67824f7c18800080008737855d89807c18844774488000783087d07c18870f78308236800083e8744883e8800087c280008184800087d07f3d885a800086737a787a7878308bb88000855d800087d07830783080008fa07c187f67800080007c1883e8800091af7f677f6780008bb87c187c1880008dc77c1887377c1880008000824f744889df800087d07c188466748482d1800085f7800080007d8d898080008587783085f77f6786747c18870f7c1881847e2785f78000855d7c1887c27c187e60800085f7800086ba80008a5b7c187c18800087d07c18834f800083e8726f820f80008bb878308b1f78308000783080007d8d87d078308bb880008bb86e1179a57e8b83e878308000783080007e4e86b9776f80b578308674783084667830896f7d8d80b579a5855d783089807830856c7c1880b57eea86ba783088bb76d380eb7830849d800083e87c188891783080008000888580008f0780008000800085f77c18800080009115800083e8800083e87c187c18800080009f40800080007d8d94fd78308000867480008bb880008aa182d178308000855d800083e880008d57855d7e61800086ba8000884e80008954855d7ca2800083e880008bb8800084d3855d808a8000800080008ca3800083e8885a8472)))
def tree_w_63 : Tree := (.node 23 (.node 61 (.node 25 (.node 34 (.node 50 (.node 37 (.leaf 5500 0x80008000800080008000800080008000899081c0800087d08000864e8000859e800087d080008e877c188ef1830d81b68000881d800086a57c1888ec80007dce7c1887d0800088eb7c188adb88a979e67c188a5c8000820c80008cfb80007c1889c48957800083e88000883d8000800080008dac80008000800083e8800083e87dd881c080008d7f800080008000863d800087d0800088f0864e82667e6d82558000881d7e0c83e880008b0975db7e6d800085fd80008e877c1885047a857bf580008a5c800086a57c1886f37d877d878000856f800088eb800089137448816f800089c47e24820c800084558000855780008855800083e8800080008000893f800087d08000886278307c187c1889327c65881d80008997858f7e7e7c18854a7a4585fd7f2c86fc7de487217d62816280008a5c763c85b88000841e8000814a79b7818780008e877c1884257460814a78b785dc770586a57d5b852b7fe883d08000846d89c488eb7448806d800087b880008bb87c18820c8ba07c187c188ba08000881d7dad855d7830783080008fd2800085fd8000881178307b8480008bea80008a5c76f68696800085b47d2388db78438187800086fc7c4e841e800088db8000846f8000835b85dc8425706088db74cd846d86208e877b4f8463800088db800087d0800086a57b1f7e2c800088db800087d0800088eb7830783080008c91800085fd800086c27c187c1880008ca57abc8a5c8000855d7d067d06800088bd7c058187800088117c1885b47e1e85ee7c18846f80008696800084887a2485ee8000846d783086fc800084257e0c85ee7c1887d089c4835b7c188463744885ee800087d07aff8e877f257f25800088e9800088aa800087d0783078308cd18cd180008bb8800087d07c18800080008dcc800083e8800086c27c1880ee783089e47c18846f7fe0855d7c1885b47e2c85fc8000846d7c1888117a2486ea80008214800087d0800086967c558501761c82147fe087d0800087357c1884637a448214800088aa7c1887437c1881a7800083e88000830d80008e877c187c18800087d07c1887d07e93827b783083e88000874978308663800087d0774283e877298361783087d07b0a86c9783086637b32807f783087d07830855d7a248ad27c187d7d785087d078728811783088e97cb17cb17cf288aa783086967830870779497f347b3d830d783089c47830858f7aff831c8000834d7c188b2b783080008000870480008a4b80008000800087d08000836180008bb88000827b800087d078307f79800087d0800087d080008a4b7b917b91800087d0800086c280008eba78307830800088aa800087d080008cd1783078308000830d80008b6780008aef85dc7c187f65834d800088b780008977897780008000800080008dac800083e887d083e8) (.leaf 5196 0x80008000800080008000800080008000800083e880008a268000863e7c1880007c18800080008bb87c1883e88000800080008bb8906387d08000889374487830800087d0800088b880008b9378307830800083e88000870d80008d3f78307c1880008bb8800083e8800084ab7c1880008c7b8c7b80008000800083e8800083e8800083e880008000889383e880008a268000800080008bb88000825684ab863e80008bb87830863e8000800082568256800087d080008962800084ab78307e6e80008000800087d0800087ab74488000800087d0800088b878308957800083e87e5488938000870d783080c3800083e880008893800083e8800080007c1887d080008000800088b8889380007c188b9380008bb87830800080008000800087ab783087d07b2e87d081d280e87fdb83c3800080008000842e74488498746d81627df485c480008962771883c3800081627b798586800087d08000856f799281877fdb84ab7d008d5680007cdb8000856f800087d08000870d88937c187c18895780008bb880008ade819e7db67c188000800087d07d0088b8800080007fdb800080007830a3eb783080007830a3eb7830744885c4800086e67cc884987c187c18800085868000842e800083c37060800074ff80c375da8962800083e8800087d080008498783087d080007acc800087d0800087ab800088b87830783080008bb8800087d0800084ab800079fe80008dd27c18816080008ade78aa7e24800089ea800085c4800088b880c37cc0744889107c18858678f38000800084988000891080008093800086e67b9c83c3797089107cc884987c5e842e782a827680008910800087ab800089627c187df180008ade80008586800087d07830783080008ec67c188000800087d088937de680008bb8800085c4800084ab7c18820c79f587d07c1885867f648ade7c1880007d7883e87c188093800088b8800087bc78f383447c1884987f3d80007d8783e87c2f83447f0387ab7c1886e67e9382767b5d8344800085867c1885c17c1881d98000872c800083bd800089627c187c1880008b147c1889ac800083e8783081ce800084ea763786b1800087d0770484c978308102783083b778f384ab783083e87c187d1a783084987bda8ade78308ba479327932790887ab783088b8783087d07c037c1879ce8586783083e8783084d77b3e80007bed83bd783086e6783085c1791f83e87eeb82d37c1889a978308000800087d080008a9980008000800085b6800083fc8000879f800083e8800088b17830801480008880800087d0800087d07c2c7c2c800087d0800084ab80008f8c783078448000858680008ade80008bb878307830800083bd80008bb8800088bf7c187c18800082d3800087d0800089a9783080008000800080008ace80008596800083e8)) (.leaf 5391 0x80008000800080008000800080008000800083e88000895787d087d080008000800087d080008d1f80008c74801f7c1880008a85800087d07c18885786a27a6280008ad880007c1880008f76856f7e4a7ef68aae8a6087d07c18800080008290810a7c18800083e87c188dea8000861a8b0c8b0c800080008000800080008a02800083e880008cc77c18800080008460800087d0800087d0800083e8856f80787ecd8a858000856f8000888c7ed27c907b388ad880008d1f8000846f7d1778a880008aae7aea86a280008b8e8000783080007830a0c7783080007c18a4af783080008724800087d080008a0278307c1880008b0c800083e88000800080008000800087d080008b9483e87c187dc3859380008a85800088df74488000800081ab80008ad8800083e87cd484a4768581ab80008aae7448847580008441800081ab7c187c1879978d1f800087ef801f83e8818784c3800086a280008000744887d07f54872478307c18861a861a80008bb87c18856f800087d087d0783080008fa080008a85800087ff828b783080008a5b80008ad87bcf87ac81d07c188000867380008aae7ded85bd738c80bc7c1883e87c188000800083e881878441783083e87c1884c380008475784f87ef800083e88000872480008d1f7c188000744885457c18830d800086a2818782328000892d8000897680008000856f7e8480008d1580008ad8800083f889577a877c188bb878308aae800087ff80007a91826187d0745283e880008787800080bc817c864f783084c37c1885bd818784418000864f727e82e9873983e8800087ef7c18864f7f25830d7b1e847578fb80cb7c18864f8000897680008d1f8000823278308a378000881e7c1886a2864f783080008e1f80008bb8800087d081877e6f80008eb6800087d0800083f87c187e7980008ace8000856f800087ff7cd480bc78fb86e6800082e9800087877c1887a1776582fe8000830d7c1885bd7c1887ef7d9f82fe800089767c1883e87c1884b379a782fe8000881e800086d67c188232800083e88000840780008d1f83e87c18800087d07ff68bb8800083e875d980008000856f78308957800087d07830826175cf818779a78395784083f8783083e87c1880007830856f785f87ff78308b897d707c1879d6897678308787783088197bf97bf97c66881e783085bd7830889b79697e997c378407783087d0783083e879978281800083e87d9f8abe783080008000866980008d3f80008000800083e8800083e88000877d800083e8800086497830800080008957800087d0800087d07c187c1880008976800083f880008f71783078308000881e800087ff80008c0178f178f180008407800087ac80008c837c187cd9800083e880008896800087d0783080c18000800080008bb8895783e8800084a9)) (.leaf 5720 0x80008000800080008000800080008000800083e88e888bb8800086b87c188000800087d0800083e880008f2086b87c188aa086ac800087d07c188fac800078307c1886b880008bb880008bb883e878307c189260800083f87c1883e883e87c1880008aa88aa083e8800087c88000800080008aa080008000800087d08bb883e8800083e880008cd08000812c80008474800087d080008b2c800082d07ca4808c800086ac874487d080008b3877a47ca4800086b8783080007d828bc47ca47ca4800086c0800087d0800087d07c107ff8800086c08e888bb87c188000744883e0800086b8800083f8783083e0800087c886c08000800083e8800083e880008bb0800087d0800089ce88a27d447c18877780008af9783088e8865e7ee87c18838f800086b87cf288aa778d875080007fa77ef086c087c887d08000882270607fa7744882d8854e80007d828552800087d0744882d0783087d080008000800087d08000800080008bb880007ff87ee887d0800086a87c2883f87830800080008bb886b886ac80008a988000795c80008bb886b886b88000896580007e6b783087d0800086c0800086b47b0084fc7c1883e87c18822c800088aa7ee888227c1880007dd081b8811887d07830855280007c1880007830a5f8783080007830a5f878308000865e800087d086b87ff878308000800089ba80008bb87c18800080008000800087d08000887086187c1880008a00783086c080008a9880007ee8800086188000822c7ebd8965800084fc747385ca800081b8800086b480008822771885ca78307dbc800088aa800085527ee88aa07e8a865e805d87d078307d8a80008aa0800089ba7c18800082d0800080008b6a8dd58605800087d07161793180008f52800087d08000856d800080007c188bc47e44833d80008870848b82d07c1887dc7c1882d080008a987ee884fc7c1883f4800080007ef089657c1088227c1883f47c1c865e7ee486b47c188552800083f4800089ba7c1888aa80008000783c83f480008605860587d078e380b3800087d0800086b87c1880008000800080008bb87c188725800083e8783083e880008763783086b87d9d856d783086b8797b837b783083e87cb888707830857d7a608000783087867af88a98783888227c187c187a1a89ba783089657830893a79ff79ff7a4d8605783086b4783083e87c187de77ee886b8783089367830849b783081cf800083e87ee88bb878308101800085b780008aa080008000800087d07c1883e8800087d0800083e880008aa08000800080008b6e8000856d8000896578307c18800089ba8000887080008bfe783078308000860580008a9880008d2278307899800086b880008b4f800087d078307c81800083e880008984800088837c8180698000800080008d1e800084e980008451)) (.node 3 (.leaf 6000 0x80008000800080008000800080008000800083e880008af5800087d0889380c3800084e0800087d07c188c508bb88b207ca2885a80008ad580008b4e844178f3800087d0800089c480008bb885dc7a24800087d08000868380008b1180007e0c800089c4800083e8800087d089c481f480008c5f8000800080008535800085dc800083e880008b2e800080ea885a87707d1084e080008b20800083e8877083888000885a7830870d8000886880007fa0800087d0800083e87830876680008452800087d07b358ad58000880c80007cbf81f485dc7e0c89c480008729800080a78000887780008683800083e88000848f800089c4800083e88000814d89c488778bb884e0800089d680007d027c188bb88000885a7f768746847280007c1887d07cb087d07f688738800084807c1883e87c1887d07c1883257fa7838f800083e8800085dc7c1883e8748489c4800083e88000857280008ad57b718341783083e8783085dc800089c480008000800087d0800087d07eb386838d057d657c188bb88000885a80008c297830791a800089d27b8087d0800089d685837efd7efd86cd800087d08000874675d5818d800086cd7c1885dc800087388000838f7c1886cd87d08572800083258000880c706086cd80008559744886237c188341800088b3783083e880008ad587d07c1880008c9b7c187fc4800089c48bb87d6580009083800087d080008a77783078307c188cf9783087d080008c2980007a6680008911744885dc7e1e89d68000818d8000852983e88572783087467c18838f800081417d8985597aa787388000880c80007d59800083d683e883257c1883417830800080007bdca3287ac480007830a0d17c1880008bb880008ad584cb80e37c18800080008bb8800087d07c187c1880008ac3800087d080008a777c187e4e800086db7c18857280008c297c18818d7c78844880008559800089d67c1883fa7c1884487fee83d6800087468000880c706084487c1880007d8987387c1883e8800087d080008bb883e883e87c187c1880008924800087d080007eac87d083e880008d0c80008bb880008319783080008000889f783088b3800087d078308236783084b77830874d7ebf8a77783084dd797180cf783083d67c898c29783087e27ba77f8f78308000783089d678308d9a8000800080008bb8783087d0783087d078307c18800087d0783087d07830800078308000800083e87c1887d0783087d0800083e880008c9b80008000800083e8800086ed80008b35800083198000861e80008305800087be800087d0800088c587d07f1d800083e880008a7780008ddc87d07b3580008bb880008c2980008fdc7f8f8794800087d080008bb880008bb883e87830800083e880009388800083e880007c188000800080008bb880008bb880008000) (.leaf 6000 0x80008000800080008000800080008000800083e87c1887dd8bab87c3800083e8800087d0800087d07c188ce78000800080008a7c800085647c188b788b787c187c1887d07cf288aa80008ec686f6783080008b7c8000849780008b45875d7c1880008bb8800083e8800087d087d0800080008f578000800080008431881983e8800083e8800087d0800083e87c1887d0800087d0800087dd8bab83db7c1883e880008a7c7c1883f5800088ff83e88000800086e67b3e83e87c18879088aa851280008b7c79ac856480008ade77c97bb1800087d083e888aa8000875d7c187f9980008b6f800084978f3983e87830838180008bd6800083e880008049800087698c0a87d08000843a7830800080008b667ec48a7c80008583813c7ff38000877e800086e6783d87dd8bab85177448839677f48b7c7c2583f5800085617eb6829e800087d0790a80007f2686f68000829e800088a4800085647abf86777c1882f0800087ee800088aa87d08000783086d87c188bb87cc7849787217c6180008ac080008a7c800087d07c187c187c18890c7b2e86e6800083e884d27c0b8000909780008b7c75e38583824d812f80008542706084f0800087dd8000856187d085427cec88a48a0a83f5713a830e80008542800087ee83e8811d80008677744887ee80008a1e8000856480007c1880008bd680008000800088aa87d07f0980008fbe800086e6800088ba783078307c188fa080008b7c783083e88bb8794d7c188bb8800084f075807d507830812f800087d07c1888a4800085837d9185617e8783e8784e87ee800087dd8000800079a9800080008a1e800083f57c1886777830800080007c18a3288000800078309b587c18800083e87c1887d0800080008bb8800080008bb88000869f7c187c1880009079800084f0800088ba7c187d3580008c917c1888a4800080008000812f74488c91800087ee7c187d507c1885a180008c9180008a1e8000858377567b3e7cf18c917c187c18800087dd7c1886ea80008c91800083e87c1887d07c187f2780008c91800087d0800083e874487c1880008fa07d2088d8800083e87830800080008ab0783088ed7ecf869f7830811d783086c8783087ee7d0288ba783083e87b1082e07a7e8a1e78308000783089897db2800078308000783080e6783080007a7e8000744880007830896b78308ad280008000800087d078308bb878308000783083e8800083e87c188bb878308000800087d080008cd580008000800083e8800086b380008bb8800083e880008505783082cb80008a1e8000869f800087d07ee37ee3800083e880008b1b80008d7178307afb800080009f4080008000800097707830800087d0800084ce80008eba78307c18800083e880008fa0800083e87c1880008000800080008fa0800083e8800083e8))) (.node 5 (.leaf 5442 0x80008000800080008000800080008000912483e880008d3c7c4e88067c187c1880007c189f73800080007d9f992a783080008bb8800087d08000898a81ba78307c18898f800086e280008ca0800078308000850d8000879e80008c7e85a27c1880008a0580008391800087ab87ab800080008d7280008000800083e887d083e8800083e88745835d800080c180008d3c7c187c1880008bb8898a841e8000895480008bb88000895480007aca7dd2856c8000898f80008000800085a27c18856c7955850d800087d0800088b876587fac8000861d800086e27830889676207fac7c1887d08000879e800083c37e28821080008bb87fa9839185f88000800085f87c18800080008aa1898a7cd980008dc780008bb87b8d7f75841e80367e2789df8000898f78f088907d117d2b800085f78000850d7b2e86e6889b8473723984dc783c83f47c188000800087d07c1884dc800083e8783087d07c1884ae81ba84dc800087d07b2a86e280007fdb82a886b4800086ef7fce879e78307c1880008a9c80008bb88000873e824c78f18000895a8000898f8000885485a27dec783085728000850d74487f7581ba81138000844a800083f480008890798884737c7a844a78308433800086e67a2785df8000844a7c1883e87c1883e88000836f744886a87f1f86ef800087d07eb37bf380008a90800087b8800086e27830783080008e787dd7898f800085a280007a5980008bb8783087d0800085a285a27dec800089e47c1883f480008854800084fb79ea83fe800083e8800083e87f8b8473767683fe7b0582d580008890783085df800083fe800086ef783086e67f87836f7c2e83fe800087b8783087d080007c18800087e680008974800087d0783078307c188bce80008bb8800087d085a27e417c188c437c1885a7800085a285a2819e7c18885b7a7a824a7dd285a2801388e37da384737c1882d579f388547ff786a18000818b7c1886ef800083e8800088e076a5818b7fe887b8800088907c18836f7a02818b80008974800086e67c1880007fb984e8800084a280008bb87c187c18800088d07c18898f800083e878308229800085a278308632800087d078308586760281ba783082d579ea85a278308ccb7c188000783087d0783085a278308a897d477d47783087b87ad98854783088de7b297c577dbc8974755e84fe783086917b18803f7cd284a278308890783083e879308427800083e87c18894a783080008000880f80008a1a80008000800086118b288517800086bd800083e88000896e898a812f80008bb8800087d0800097fb81ba7d47800087d0800085a280008e7185a2795f800089748000863480008cc6859a78d4800084a28000896b80008a7985a27cbc800083e8800088e6800087d0887480a48000800080008c78800083e888c984e1) (.leaf 5424 0x800080008000800080008000800080007fd883c07c188d188000884080007c1880007c189d007d7e800080009b9a783080008978800087d07c188bb88000783087598bfa7c188716800089f0822078307cc6887e8000859080008b0a80007c1880008b04800083e880008644864480008d608d6080008000800083e8800083e8800083c0800085b88000800080008bb878307c1880008cf08c288458800087d0800089788000893080007ea0783083e889788bfa74487d7e800087d0800083e88bd4887e800086ce7da4860874487fdc7830871c91f687167b6a872278307fdc800089807dc085908620825c800083c48000899c800083e880008000800087ac8000800080008bb878307c1880008d607dc089787de881d0827c80707f9c897880488bfa8000899a75a878308000876c8000887e800086df852c842a70c481a87f4c8334800083e876a48220800081a87f178980772e86ce81eb833a7dc081a87b1a86d28000871680007e74783083e880008bb88000859083e87c18800087d08000897880008bb878307830800087d080008bfa79d1883c80fa7d12800083e88000887e766081d083787c187c1883e8800083348000899a81a8847a744883e876e189807f0f86df800080e9800083e8862486d2800083e8779c82a6783087d0800087d0800086ce78307a8c80008bb87e7a864a871687168000783080008fa091488bfa8000893674487830800087d07c18887e80008bb888ca7d12783083e879d880f48000883c74488000800083db80008980800081d07c18842a783083db800086d279fa899a83c680e9783083db7c1883e8783086df800082a67ff387c3800086f6783087d085907abf80008bab8000869f800086ce8590783080008f937c188bb8800080008000800080008db07c1881a88000893681a8808a800089c88000898080008bb87a197a19744885e07c1886d27fb0883c7c18842a7e1081f87bf083c07de883e87c1882b1800081f88000864a8000899a7c18835479d881f88000869f800086df7c187ea77a7083e88000859080008bb883e87c18800087d07c188590800083e87830800080008bb878308bc078307d2e783084727dc087d0783088ee7d7e893676477f247a5b83e874707ffa7c188bb8783088127d98816c7830864a7b33883c783086997abd80117ae7869f77a487447830873c7b9580117dc085907830899a77ad820d78b383f9800083e87c18896778308000800087e180008fa880008000800083e88589800080008cd6800083e88000885a84727c1880007ffa9d007d2e8000800098087830800087d08000893680008bfa783078308000869f80008bb880008a8178307858800085908000883c80008b247c407c40800083e880008b2c800085f5783080288000800080008c4a800083e8800084fe))) (.node 41 (.node 8 (.leaf 5455 0x80008000800080008000800080008000800083e880008bb87c1885ae800080008000850680008bb88000887980007c18800087ff8000891580008c0b843b78308000876a80008bb8800089fd822d78307c188bb8856a856a842c881480007c18800088ae8000822d80008a738000800080008d7e80008000800083e887d083e8800083e880008bb880008000800085ae7d36850690498cbc800081c6783081c6800087ff80008a898000849179f67dde8000876a783088617c6b896c80007c187c1887d0800089158000861581c679bf783087c380008bb88000842c81d37da7800087ca8000856a8000868b7c18818f80008dab8d7e822d800080007c1885778000850680008a0278307c1880008a2e7c4787ff800087d07b517f39800086467bb2876a800088d47f8b826f7ad282a2800083e880818a898000843b758e82a2800087c38000886174488288800082a2800087ca7975891584d3804477c7842c800089c380008bb87ebb868b7f238814800087d07d9a856a88147c1880008bfc800087ff80008aba7830783080008a658000876a8000882e7c187f397ac5867d7830800077b687568628826f80008295800087c3800088d473f5834179f68074800087ca838d8a898000828872828074744885db87d088617c1880447dde85ae800087d08000891571a57ebb8c3a85ae800087d080008bb881c67830800089967c1887d080008a917830783080008abe8996800080008aba7c18815b783086d67c0b87c37bbd882e7c18826f800082ee7c1887ca800087567f598341777182ee7e76825e7d1c88d47ea082887bdd83ad800087d082fd8a8976f97f0d7c1883e8800087d07ca988617ad37d4d800087d0800086528000891585ae7a3080008bb8800080009e897dba8000783097947e9580008acd80008a917c18854378307aad7c1887d080008aba7c1885ae7c187d168000825e8000882e80008341744880007c1887d0800087567c18844378637e12800087d07c1888d4800082b179f681fa800086527c188a897e927e92800085e28000850b800088617c187e18800089ca7c188eb5800083e878307c188000869978308bb878307dba7830892b7d1282b17830825e7ed98a917830899677367ec9783087d07b1a8aba783086d67ae17bef783087d078e9882e7830882b7d257d257a9a865278308756783086997b75810d7d3b850b783088d47830827a78d384f581c68ead7c188e7178308200800095708d7e8fa08000800080008000800083e880008454800083e880008d137c18800080008bb88000800080008d7e78307c18800087d080008a9180008abe783078308000865280008aba80008c13783078308000850b800089e480008a8178307bde800083e880008b3e800086627bde7fc68000800080008bb8800085e8800083ae) (.leaf 5862 0x80008000800080008000800080008000800083e880008aa080008475885d83e87cff84cf800088ed892a892a800080008000886f800087d080008a8f86a77c187c1885c780008b7780008d3e85a8786a7c188bb88b2e85878000895580007c528b2e8a8e800083e8800087d08000803a80008e1b800080008000840280008422800083e8800088b28000800080008a4c800084cf80008b2686f1808d800086648000886f8b2e86b8800085427448827c800089db800087d0800086a77e947e94800087d0800087d0800089567b747df07df086a692e58b7779b5856d74ec7f5c80008a3380008587800083e8800083448bd28bb8800083e88000801a7f5c872c800084cf80008a4778307c1880008bb88000886f800088b27f767df5800087d07df785c77ca28b26800082117d0d83e8835e83e8800082d0744882bf800083e8800085c0744887d08000856e835e83e8762189a9818587d080008185800083e8800087d07fbf8b77744880008b6f87d07c1989748000858780007c3287ea8bb88000886f800087d07830783080008e77800085c780008a477f767c4980008a8f7e948000791288b280008211800087d07c1885c080008b267fbd7fbd73a98644800089a980008000800086f977a6864480fb83e8800087d076ab83c18000876d8000883383c187d07c187f767f9d876d7c1887d08b2e8b778000784a80008b557c1887d080008a488000783080008c9e80008000800087d078307fa3800088b67c1885c080008a4781ee821179a084ce800089a9800088b278307fbd7f7684ce8444800080008b268000856e736284ce800088337aa8800080007d137cfe84ce7c1887d083e887d07f767f76800087d080008b2e800087d083e8783080008bb8800080009eb67c18800078309ace80007c1886e97e908c728000838b7c188000800089a9800087d07c18849f7b8e8000800080007e8f8a47800080e671747caa80008833800088b28000856e77a68092800087d07ee38b267c187f767caa847a80008b2e835e7c187c18873e80008862800087d080008a9b847a783080008c4a7c188ad1800083e878307c1880008c1578308b2e78307c18783087737f76882d78037fd380008a487830888777d3844578938833783087d0783084ce7f138214800087d078308a47783087d077027cff7f768b2e78308bb8783086e978307917800087d078308bb87830874677a67c1880007c189ace800080007c189ace800080008f168000800080008000800087d0800083bb800083e880008b5b800083e880008a778000800080008c6f80008000800087d080008a48800088b684ce7c1880008b2e800087d080008bb883e87830800087d080008bb880008746835e7c188bb87c1880008fa080008b2e7f7680008000800080008fa08000800080008746)) (.leaf 5813 0x80008000800080008000800080008000800083e8800088db89f38661800083918000875f800087dd800087d087157fa980008bab7c1887d07c18877980007bc17ff38ba48bb180007c188c8d7f597e8480008bb8800087d0832d8afd8000783080008f21800083e883ac800080007c188afd8afd8000800080008bb880008000800083e880008a788000819d800086b88000875f80008a0d85498279800082d087158bab783084f3800083e880007fa37c118ba4800087dd7fa98391838b7fa3800087d080008585800088a57c1880bb78c38ee580007c1880008715744884a380008a43800087d080007c188000888b7c187c18800083e88ee587d080008c737f8f875f7e7087d080007db5800089d180008bab8000869085147e917a3185e980008ba478dd887d7e98809380008201744883e8800084388e038391752b80007f458ee5783d87dd800084bd7ff37b3574488a438000858580008715832d7fd880007830a523783080007830a655796380008db38afd87d0800083e87c187d4b80008bab8000896d819d79cd800087d080008ba4800087d080007e91783083e88000800076f086908085809380008f9380008ee58000887d70747bd57f95837d80008a43800084387ced84bd7830837d7b5d805d800087dd7c1887158000876580008db3800085858715783078308b4d80008b6880007c188715800080008f3580008ba480008ba4800078307f6d873d783080008715896d800080008000835580008ee5800087d07c18809378307f6d80008a43800086908000800077757f6d750380008000887d7c1884bd800080bb80008db37c68843875e580e37cd383e880008afd800087dd87157c0b783087d0800089607c18858587d07c1880008bb880008000a2597c18800078309a9d7c2c80008ee58afd8ba47c1883e87830784480008afd8000896d7c18847b74487830800080007da887d07c1880147db57db57f458db3800086907c1884bd7c187db580008afd8000887d7c18819d7b5d819d800089607c1887158a437ff378eb8585800085787c188bb885857c188000896d7f6d8f64800083e878307c187fd887517aa38f6478307c18783087d07cd383697775832d7fec8ba47830886378447f817ae58db379cd896d783083fc7af37b997b5d8afd783087d0783087d07c187c187da88960783087d07830858579cd80007da8857878308a287783832d7a7b83e8800083e87c188afd78308000800087d0800092cd8000800080008000800083e880008715800083e880008bb87c18800080008db38000800080008ceb78307c1880008afd80008ba4800087e478307830800089608000896d80008bb8783078308000857880008bb88000896d78307c18800083e880008bb88afd87157c1880008000800080008e10800083e8800083e8)))

def cert3 : List (Sq × Tree) :=
  [(52, tree_w_52), (53, tree_w_53), (54, tree_w_54), (55, tree_w_55), (60, tree_w_60), (61, tree_w_61), (62, tree_w_62), (63, tree_w_63)]

/-- one evaluation for the eight trees: the geometry of the board, which every leaf of every tree reads, is then
computed once -/
theorem cert3_ok : cert3.all (fun e => checkTree .white e.1 [] [] e.2) = true := by decide +kernel

theorem ok_w_52 : checkTree .white ⟨52, by decide⟩ [] [] tree_w_52 = true := ok_of_cert cert3_ok (by simp [cert3])
theorem ok_w_53 : checkTree .white ⟨53, by decide⟩ [] [] tree_w_53 = true := ok_of_cert cert3_ok (by simp [cert3])
theorem ok_w_54 : checkTree .white ⟨54, by decide⟩ [] [] tree_w_54 = true := ok_of_cert cert3_ok (by simp [cert3])
theorem ok_w_55 : checkTree .white ⟨55, by decide⟩ [] [] tree_w_55 = true := ok_of_cert cert3_ok (by simp [cert3])
theorem ok_w_60 : checkTree .white ⟨60, by decide⟩ [] [] tree_w_60 = true := ok_of_cert cert3_ok (by simp [cert3])
theorem ok_w_61 : checkTree .white ⟨61, by decide⟩ [] [] tree_w_61 = true := ok_of_cert cert3_ok (by simp [cert3])
theorem ok_w_62 : checkTree .white ⟨62, by decide⟩ [] [] tree_w_62 = true := ok_of_cert cert3_ok (by simp [cert3])
theorem ok_w_63 : checkTree .white ⟨63, by decide⟩ [] [] tree_w_63 = true := ok_of_cert cert3_ok (by simp [cert3])

end Owl.Props.C19
