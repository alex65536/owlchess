/-
The text `fmtFen` writes, described once for both readers (the code's parser in Props/C08, the independent reader
in Props/C08_reader): fields joined by a separator and how a split recovers them, decimal counters, and the
run-length text of a rank as a structural recursion over its cells.
-/
import OwlModel.Impl.Text
import OwlModel.Spec.Text

namespace Owl.Lemmas
open Owl Owl.Impl

/-- the `foldr` inside `Spec.splitOn` -/
def splitFold (sep : Nat) (s : Bytes) : Bytes × List Bytes :=
  s.foldr (fun b (st : Bytes × List Bytes) => if b = sep then ([], st.1 :: st.2) else (b :: st.1, st.2)) ([], [])

theorem splitOn_eq (sep : Nat) (s : Bytes) :
    Spec.splitOn sep s = (splitFold sep s).1 :: (splitFold sep s).2 := by
  unfold Spec.splitOn splitFold
  generalize List.foldr _ _ s = st
  obtain ⟨a, b⟩ := st
  rfl

theorem splitFold_cons_sep (sep : Nat) (s : Bytes) :
    splitFold sep (sep :: s) = ([], (splitFold sep s).1 :: (splitFold sep s).2) := by
  simp [splitFold]

theorem splitFold_cons_ne (sep b : Nat) (s : Bytes) (h : b ≠ sep) :
    splitFold sep (b :: s) = (b :: (splitFold sep s).1, (splitFold sep s).2) := by
  simp [splitFold, h]

theorem splitFold_append (sep : Nat) : ∀ (a rest : Bytes), sep ∉ a →
    splitFold sep (a ++ rest) = (a ++ (splitFold sep rest).1, (splitFold sep rest).2)
  | [], rest, _ => rfl
  | b :: t, rest, h => by
    have hb : b ≠ sep := fun e => h (by simp [e])
    have ht : sep ∉ t := fun e => h (by simp [e])
    rw [List.cons_append, splitFold_cons_ne _ _ _ hb, splitFold_append sep t rest ht]
    rfl

theorem splitOn_cons (sep : Nat) (a rest : Bytes) (h : sep ∉ a) :
    Spec.splitOn sep (a ++ sep :: rest) = a :: Spec.splitOn sep rest := by
  rw [splitOn_eq, splitOn_eq, splitFold_append sep a _ h, splitFold_cons_sep]
  simp

theorem splitOn_single (sep : Nat) (a : Bytes) (h : sep ∉ a) : Spec.splitOn sep a = [a] := by
  have := splitFold_append sep a [] h
  rw [List.append_nil] at this
  rw [splitOn_eq, this]
  simp [splitFold]

def joinSep (sep : Nat) : Bytes → List Bytes → Bytes
  | a, [] => a
  | a, b :: t => a ++ sep :: joinSep sep b t

theorem splitOn_join (sep : Nat) : ∀ (t : List Bytes) (a : Bytes), (∀ x ∈ a :: t, sep ∉ x) →
    Spec.splitOn sep (joinSep sep a t) = a :: t
  | [], a, h => splitOn_single sep a (h a (by simp))
  | b :: t, a, h => by
    rw [joinSep, splitOn_cons sep a _ (h a (by simp)), splitOn_join sep t b (fun x hx => h x (by simp [hx]))]

theorem forall_mem_joinSep {sep : Nat} {P : Nat → Prop} (hsep : P sep) : ∀ (t : List Bytes) (a : Bytes),
    (∀ x ∈ a :: t, ∀ b ∈ x, P b) → ∀ b ∈ joinSep sep a t, P b
  | [], a, h, b, hb => h a (by simp) b hb
  | c :: t, a, h, b, hb => by
    rw [joinSep] at hb
    rcases List.mem_append.mp hb with hb | hb
    · exact h a (by simp) b hb
    · rcases List.mem_cons.mp hb with rfl | hb
      · exact hsep
      · exact forall_mem_joinSep hsep t c (fun x hx => h x (by simp [hx])) b hb

/-- body of the fold in `splitSpaces` -/
def splitStep (st : Bytes × List Bytes) (b : Nat) : Bytes × List Bytes :=
  if b = 32 then ([], st.1.reverse :: st.2) else (b :: st.1, st.2)

theorem splitStep_fold : ∀ (s cur : Bytes) (acc : List Bytes),
    ((s.foldl splitStep (cur, acc)).1.reverse :: (s.foldl splitStep (cur, acc)).2).reverse
      = acc.reverse ++ (cur.reverse ++ (splitFold 32 s).1) :: (splitFold 32 s).2
  | [], cur, acc => by simp [splitFold]
  | b :: t, cur, acc => by
    rw [List.foldl_cons]
    by_cases hb : b = 32
    · subst hb
      have : splitStep (cur, acc) 32 = ([], cur.reverse :: acc) := by simp [splitStep]
      rw [this, splitStep_fold t, splitFold_cons_sep]
      simp
    · have : splitStep (cur, acc) b = (b :: cur, acc) := by simp [splitStep, hb]
      rw [this, splitStep_fold t, splitFold_cons_ne _ _ _ hb]
      simp

/-- `str::split(' ')` as the code does it (left fold, reversed accumulators) is the specification's `splitOn 32` -/
theorem splitSpaces_eq_splitOn (s : Bytes) : splitSpaces s = Spec.splitOn 32 s := by
  rw [splitOn_eq]
  exact (splitStep_fold s [] []).trans (by simp)

/-- bytes acceptable inside a FEN field: ASCII and not the field separator -/
def Clean (s : Bytes) : Prop := ∀ b ∈ s, b < 128 ∧ b ≠ 32

theorem Clean.no_space {s : Bytes} (h : Clean s) : 32 ∉ s := fun hm => (h 32 hm).2 rfl

theorem isAscii_iff (s : Bytes) : isAscii s = true ↔ ∀ b ∈ s, b < 128 := by
  simp [isAscii]

/-- value of a digit string, as `u16::from_str` and the specification's reader both compute it -/
abbrev decVal (ds : Bytes) : Nat := ds.foldl (fun a b => a * 10 + (b - 48)) 0

/-- the digits `fmtNatAux` puts in front of its accumulator: at least one, all decimal, and (fuel permitting) they
spell `n` without a leading zero -/
theorem fmtNatAux_spec : ∀ (fuel n : Nat) (acc : Bytes), ∃ ds, fmtNatAux (fuel + 1) n acc = ds ++ acc ∧ ds ≠ [] ∧
    (∀ b ∈ ds, isDigit b = true) ∧ (n < 10 ^ (fuel + 1) → decVal ds = n ∧ (n ≠ 0 → ds.head? ≠ some 48))
  | fuel, n, acc => by
    have hd : isDigit (48 + n % 10) = true := by simp [isDigit]; omega
    by_cases h0 : n / 10 = 0
    · exact ⟨[48 + n % 10], by simp [fmtNatAux, h0], by simp, by simpa using hd,
        fun _ => ⟨by simp [decVal]; omega, fun hn => by simp; omega⟩⟩
    · cases fuel with
      | zero => exact ⟨[48 + n % 10], by simp [fmtNatAux], by simp, by simpa using hd, fun h => by omega⟩
      | succ fuel =>
        obtain ⟨ds, h1, h2, h3, h4⟩ := fmtNatAux_spec fuel (n / 10) ((48 + n % 10) :: acc)
        refine ⟨ds ++ [48 + n % 10], ?_, by simp, ?_, fun h => ?_⟩
        · rw [fmtNatAux, if_neg h0, h1, List.append_assoc]; rfl
        · intro b hb
          rcases List.mem_append.mp hb with hb | hb
          · exact h3 b hb
          · rw [List.mem_singleton.mp hb]; exact hd
        · obtain ⟨v, l⟩ := h4 (by rw [Nat.pow_succ] at h; omega)
          refine ⟨?_, fun _ => ?_⟩
          · simp only [decVal, List.foldl_append, List.foldl_cons, List.foldl_nil] at v ⊢
            rw [v]
            omega
          · have := l h0
            cases ds with
            | nil => exact absurd rfl h2
            | cons d t => simpa using this

theorem fmtNat_spec (n : Nat) : fmtNat n ≠ [] ∧ (∀ b ∈ fmtNat n, isDigit b = true) ∧
    (n ≤ 65535 → decVal (fmtNat n) = n ∧ (n ≠ 0 → (fmtNat n).head? ≠ some 48)) := by
  obtain ⟨ds, h1, h2, h3, h4⟩ := fmtNatAux_spec 31 n []
  rw [List.append_nil] at h1
  rw [fmtNat, h1]
  exact ⟨h2, h3, fun h => h4 (Nat.lt_of_le_of_lt h (by decide))⟩

theorem fmtNat_clean (n : Nat) : Clean (fmtNat n) := by
  intro b hb
  have := (fmtNat_spec n).2.1 b hb
  simp only [isDigit, Bool.and_eq_true, decide_eq_true_eq] at this
  omega

/-- a pending run of `e` empty squares, written out -/
def flushDigit (e : Nat) : Bytes := if e ≠ 0 then [48 + e] else []

/-- the text of a list of cells with `e` empty squares pending before them -/
def encRow : Nat → List Cell → Bytes
  | e, [] => flushDigit e
  | e, c :: cs => if c.isFree then encRow (e + 1) cs else flushDigit e ++ cellByte c :: encRow 0 cs

theorem flushDigit_zero : flushDigit 0 = [] := rfl

theorem flushDigit_pos {e : Nat} (h : e ≠ 0) : flushDigit e = [48 + e] := if_pos h

theorem encRow_free {x : Cell} (h : x.isFree = true) (e : Nat) (cs : List Cell) :
    encRow e (x :: cs) = encRow (e + 1) cs := by simp [encRow, h]

theorem encRow_occ {x : Cell} (h : ¬ x.isFree = true) (e : Nat) (cs : List Cell) :
    encRow e (x :: cs) = flushDigit e ++ cellByte x :: encRow 0 cs := by simp [encRow, h]

def rankFinish (st : Bytes × Nat) : Bytes := if st.2 ≠ 0 then st.1 ++ [48 + st.2] else st.1

/-- body of the file loop of `fmtRankCells` -/
def rowStep (cells : Tab 64 Cell) (rank : Fin 8) (st : Bytes × Nat) (file : Fin 8) : Bytes × Nat :=
  if (cells.get (Sq.mk file rank)).isFree then (st.1, st.2 + 1)
  else (rankFinish st ++ [cellByte (cells.get (Sq.mk file rank))], 0)

theorem fmtRankCells_eq (cells : Tab 64 Cell) (rank : Fin 8) :
    fmtRankCells cells rank = rankFinish ((List.finRange 8).foldl (rowStep cells rank) ([], 0)) := by
  have hf : (fun (st : Bytes × Nat) (file : Fin 8) =>
      let cell := cells.get (Sq.mk file rank)
      if cell.isFree then (st.1, st.2 + 1)
      else
        let o := if st.2 ≠ 0 then st.1 ++ [48 + st.2] else st.1
        (o ++ [cellByte cell], 0)) = rowStep cells rank := by
    funext st file; rfl
  unfold fmtRankCells
  rw [hf]
  generalize (List.finRange 8).foldl (rowStep cells rank) ([], 0) = st
  obtain ⟨o, e⟩ := st
  rfl

theorem rankFinish_eq (out : Bytes) (e : Nat) : rankFinish (out, e) = out ++ flushDigit e := by
  unfold rankFinish flushDigit
  by_cases he : e = 0 <;> simp [he]

theorem rank_fold_enc (cells : Tab 64 Cell) (rank : Fin 8) : ∀ (fs : List (Fin 8)) (out : Bytes) (e : Nat),
    rankFinish (fs.foldl (rowStep cells rank) (out, e))
      = out ++ encRow e (fs.map fun f => cells.get (Sq.mk f rank))
  | [], out, e => by simp [encRow, rankFinish_eq]
  | f :: fs, out, e => by
    rw [List.foldl_cons, List.map_cons]
    by_cases hfree : (cells.get (Sq.mk f rank)).isFree = true
    · have hst : rowStep cells rank (out, e) f = (out, e + 1) := by simp [rowStep, hfree]
      rw [hst, rank_fold_enc cells rank fs, encRow_free hfree]
    · have hst : rowStep cells rank (out, e) f
          = (rankFinish (out, e) ++ [cellByte (cells.get (Sq.mk f rank))], 0) := by simp [rowStep, hfree]
      rw [hst, rank_fold_enc cells rank fs, rankFinish_eq, encRow_occ hfree]
      simp

def rankCells (cells : Tab 64 Cell) (rank : Fin 8) : List Cell :=
  (List.finRange 8).map fun f => cells.get (Sq.mk f rank)

theorem rankCells_length (cells : Tab 64 Cell) (rank : Fin 8) : (rankCells cells rank).length = 8 := by
  simp [rankCells]

theorem fmtRankCells_enc (cells : Tab 64 Cell) (rank : Fin 8) :
    fmtRankCells cells rank = encRow 0 (rankCells cells rank) := by
  rw [fmtRankCells_eq, rank_fold_enc]
  rfl

theorem finRange8 : List.finRange 8 = [0, 1, 2, 3, 4, 5, 6, 7] := by decide

theorem fmtCells_join (cells : Tab 64 Cell) :
    fmtCells cells = joinSep 47 (encRow 0 (rankCells cells 0))
      ((([1, 2, 3, 4, 5, 6, 7] : List (Fin 8)).map (rankCells cells)).map (encRow 0)) := by
  unfold fmtCells
  rw [finRange8]
  simp [joinSep, fmtRankCells_enc]

theorem squares_flat :
    ((List.finRange 8).map fun r => (List.finRange 8).map fun f => Sq.mk f r).flatten = List.finRange 64 := by
  decide +kernel

theorem rankCells_flatten (cells : Tab 64 Cell) :
    ((List.finRange 8).map (rankCells cells)).flatten = (List.finRange 64).map cells.get := by
  rw [← squares_flat, List.map_flatten, List.map_map]
  simp only [List.map_map, Function.comp_def]
  rfl

/-- a cell letter is ASCII, no separator and no run-length digit; this includes `.` for the empty cell, which the
parser accepts and the formatter never writes -/
theorem cellByte_plain : ∀ x : Cell,
    cellByte x < 128 ∧ cellByte x ≠ 32 ∧ cellByte x ≠ 47 ∧ ¬ (49 ≤ cellByte x ∧ cellByte x ≤ 56) := by decide

theorem cellOfByte_cellByte : ∀ x : Cell, cellOfByte (cellByte x) = some x := by decide

theorem flushDigit_plain (e : Nat) (h : e ≤ 8) : ∀ b ∈ flushDigit e, b < 128 ∧ b ≠ 32 ∧ b ≠ 47 := by
  intro b hb
  unfold flushDigit at hb
  split at hb
  · have : b = 48 + e := by simpa using hb
    omega
  · cases hb

theorem encRow_plain : ∀ (cs : List Cell) (e : Nat), e + cs.length ≤ 8 → ∀ b ∈ encRow e cs, b < 128 ∧ b ≠ 32 ∧ b ≠ 47
  | [], e, h, b, hb => flushDigit_plain e (by simpa using h) b hb
  | x :: cs, e, h, b, hb => by
    simp only [List.length_cons] at h
    by_cases hfree : x.isFree = true
    · rw [encRow_free hfree] at hb
      exact encRow_plain cs (e + 1) (by omega) b hb
    · rw [encRow_occ hfree] at hb
      rcases List.mem_append.mp hb with h1 | h1
      · exact flushDigit_plain e (by omega) b h1
      · rcases List.mem_cons.mp h1 with rfl | h2
        · obtain ⟨h1, h2, h3, _⟩ := cellByte_plain x
          exact ⟨h1, h2, h3⟩
        · exact encRow_plain cs 0 (by omega) b h2

theorem fmtCells_pieces_plain (cells : Tab 64 Cell) :
    ∀ x ∈ encRow 0 (rankCells cells 0) :: (([1, 2, 3, 4, 5, 6, 7] : List (Fin 8)).map (rankCells cells)).map (encRow 0),
      ∀ b ∈ x, b < 128 ∧ b ≠ 32 ∧ b ≠ 47 := by
  intro x hx
  have hrank : ∃ rank, x = encRow 0 (rankCells cells rank) := by
    rcases List.mem_cons.mp hx with rfl | hx
    · exact ⟨0, rfl⟩
    · simp only [List.map_map, List.mem_map] at hx
      obtain ⟨rank, _, rfl⟩ := hx
      exact ⟨rank, rfl⟩
  obtain ⟨rank, rfl⟩ := hrank
  exact encRow_plain _ 0 (by simp [rankCells_length])

end Owl.Lemmas
