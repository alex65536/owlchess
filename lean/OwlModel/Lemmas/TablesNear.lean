/-
C15: the leaper and pawn attack tables against one step from every square, and the between tables of rook and bishop
against `Spec.between`, checked by one walk along every ray of every square.
-/
import OwlModel.Lemmas.Slide

namespace Owl.Lemmas
open Owl

/-- squares one step away by the given offsets -/
def stepsOf (s : Sq) (steps : List (Int × Int)) : List Sq := steps.filterMap fun d => Spec.step s d
def pawnSteps (c : Color) : List (Int × Int) := [(-1, Spec.forward c), (1, Spec.forward c)]

def nearCheck : Bool :=
  Sq.all.all fun s =>
    Impl.kingAttack s == BB.ofList (stepsOf s Spec.kingSteps)
    && Impl.knightAttack s == BB.ofList (stepsOf s Spec.knightSteps)
    && Impl.pawnAttack .white s == BB.ofList (stepsOf s (pawnSteps .white))
    && Impl.pawnAttack .black s == BB.ofList (stepsOf s (pawnSteps .black))

theorem near_check : nearCheck = true := by decide +kernel

theorem near_check_sq (s : Sq) :
    Impl.kingAttack s = BB.ofList (stepsOf s Spec.kingSteps)
    ∧ Impl.knightAttack s = BB.ofList (stepsOf s Spec.knightSteps)
    ∧ Impl.pawnAttack .white s = BB.ofList (stepsOf s (pawnSteps .white))
    ∧ Impl.pawnAttack .black s = BB.ofList (stepsOf s (pawnSteps .black)) := by
  have h := (List.all_eq_true.mp near_check) s (List.mem_finRange _)
  simp only [Bool.and_eq_true, beq_iff_eq] at h
  exact ⟨h.1.1.1, h.1.1.2, h.1.2, h.2⟩

/-- along one ray from a square: the strictly-between set of every square of the ray holds the squares before it -/
def prefixCheck (strict : Sq → BB) : List Sq → List Sq → Bool
  | [], _ => true
  | b :: rest, pre => strict b == BB.ofList pre && prefixCheck strict rest (pre ++ [b])

/-- The between tables of one line piece against the rays, one walk along every ray of every square: the alignment
row of the square is the union of its rays, and `prefixCheck` holds along each. -/
def lineCheck (dirs : List (Int × Int)) (row : Sq → BB) (strict : Sq → Sq → BB) : Bool :=
  Sq.all.all fun a =>
    row a == BB.ofList (dirs.flatMap fun d => Spec.ray d 7 a)
    && dirs.all fun d => prefixCheck (strict a) (Spec.ray d 7 a) []

theorem rook_line_check :
    lineCheck Spec.rookDirs (fun a => tabGet Gen.rookNE a.val) Impl.rookStrict = true := by decide +kernel
theorem bishop_line_check :
    lineCheck Spec.bishopDirs (fun a => tabGet Gen.bishopNE a.val) Impl.bishopStrict = true := by decide +kernel

theorem prefixCheck_sound {strict : Sq → BB} {b : Sq} : ∀ {l pre : List Sq}, prefixCheck strict l pre = true → b ∈ l →
    strict b = BB.ofList (pre ++ l.takeWhile (· ≠ b))
  | [], _, _, hb => by cases hb
  | c :: rest, pre, h, hb => by
    simp only [prefixCheck, Bool.and_eq_true, beq_iff_eq] at h
    by_cases e : c = b
    · subst e; simp [h.1]
    · have hb' : b ∈ rest := (List.mem_cons.mp hb).resolve_left (fun e' => e e'.symm)
      rw [prefixCheck_sound h.2 hb']
      simp [e]

theorem isSome_between (dirs : List (Int × Int)) (a b : Sq) :
    (Spec.between dirs a b).isSome = true ↔ b ∈ dirs.flatMap fun d => Spec.ray d 7 a := by
  unfold Spec.between
  induction dirs with
  | nil => simp
  | cons d ds ih =>
    rw [List.findSome?_cons, List.flatMap_cons, List.mem_append, ← ih]
    by_cases h : b ∈ Spec.ray d 7 a <;> simp [h]

theorem lineCheck_sound {dirs : List (Int × Int)} {row : Sq → BB} {strict : Sq → Sq → BB}
    (h : lineCheck dirs row strict = true) (a b : Sq) :
    (row a).has b = (Spec.between dirs a b).isSome
      ∧ ∀ l, Spec.between dirs a b = some l → strict a b = BB.ofList l := by
  have ha := List.all_eq_true.mp h a (List.mem_finRange _)
  simp only [Bool.and_eq_true, beq_iff_eq] at ha
  refine ⟨by rw [ha.1, BB.has_ofList, Bool.eq_iff_iff, decide_eq_true_eq, isSome_between], fun l hl => ?_⟩
  unfold Spec.between at hl
  obtain ⟨d, hd, hdd⟩ := List.exists_of_findSome?_eq_some hl
  simp only at hdd
  split at hdd
  · rename_i hm
    injection hdd with hdd
    rw [prefixCheck_sound (List.all_eq_true.mp ha.2 d hd) (by simpa using hm), List.nil_append, hdd]
  · cases hdd

/-! alignment predicates and strictly-between sets are those of `Spec.between` -/

theorem rook_valid_eq (a b : Sq) : Impl.isRookValid a b = (Spec.between Spec.rookDirs a b).isSome :=
  (lineCheck_sound rook_line_check a b).1
theorem bishop_valid_eq (a b : Sq) : Impl.isBishopValid a b = (Spec.between Spec.bishopDirs a b).isSome :=
  (lineCheck_sound bishop_line_check a b).1
theorem rook_strict_eq (a b : Sq) (l : List Sq) (h : Spec.between Spec.rookDirs a b = some l) :
    Impl.rookStrict a b = BB.ofList l :=
  (lineCheck_sound rook_line_check a b).2 l h
theorem bishop_strict_eq (a b : Sq) (l : List Sq) (h : Spec.between Spec.bishopDirs a b = some l) :
    Impl.bishopStrict a b = BB.ofList l :=
  (lineCheck_sound bishop_line_check a b).2 l h

end Owl.Lemmas
