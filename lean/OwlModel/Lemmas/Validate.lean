/-
C11 lemmas: the validation gate against the specification (`Spec.ValidRaw`, `Spec.normalise`, `Spec.Holds`). Its two
normalisation steps, each described once (castling rights: `rHas_normaliseCastling`; en-passant mark: `epKeep`,
`normaliseEp_cases`) and together (`abs_normalise`); then what each answer of its checks says about the board it was
given (`GateSays`, `checkBoard_spec`), first about the bit sets and then in the specification's terms
(`checkBoard_build_iff`, `checkBoard_err`, `checkBoard_notrap`).
-/
import OwlModel.Lemmas.Attacks
import OwlModel.Lemmas.SpecRead
import OwlModel.Lemmas.Shape
import OwlModel.Props.C20

namespace Owl.Lemmas
open Owl Owl.Impl

theorem rHas_normaliseCastlingColor (raw : RawBoard) (color : Color) (c : Color) (s : Side) :
    rHas (normaliseCastlingColor raw color).castling c s =
      (rHas raw.castling c s && (decide (c ≠ color) ||
        (decide (raw.get (kingHomeSq color) = Cell.mk color .king) && decide (raw.get (rookHomeSq color s) = Cell.mk color .rook)))) := by
  unfold normaliseCastlingColor kingHomeSq rookHomeSq
  simp only [apply_ite (rHas · c s), Props.C20.rights_without]
  by_cases hc : color = c
  · subst hc
    cases s <;> cases rHas raw.castling color _ <;> simp [Bool.and_comm]
  · have hc' : ¬ c = color := fun e => hc e.symm
    simp [hc, hc']

theorem rHas_normaliseCastling (raw : RawBoard) (c : Color) (s : Side) :
    rHas (normaliseCastling raw).castling c s =
      (rHas raw.castling c s && decide (raw.get (kingHomeSq c) = Cell.mk c .king)
        && decide (raw.get (rookHomeSq c s) = Cell.mk c .rook)) := by
  unfold normaliseCastling
  rw [rHas_normaliseCastlingColor, rHas_normaliseCastlingColor]
  have hget : ∀ t, (normaliseCastlingColor raw .white).get t = raw.get t := by
    intro t; simp [RawBoard.get, normaliseCastlingColor]
  simp only [hget]
  cases c <;> simp [Bool.and_assoc]

theorem normaliseCastling_rightsOk (raw : RawBoard) : RightsOk (normaliseCastling raw) := by
  intro c s h
  rw [rHas_normaliseCastling] at h
  simp only [Bool.and_eq_true, decide_eq_true_eq] at h
  exact ⟨h.1.2, h.2⟩

/-- the castling step changes nothing that `EpOk` reads (one colour at a time: unfolding both at once is dear) -/
theorem EpOk.normaliseCastling {r : RawBoard} (h : EpOk r) : EpOk (normaliseCastling r) :=
  have step : ∀ {r : RawBoard} (c : Color), EpOk r → EpOk (normaliseCastlingColor r c) := fun _ h => h
  step .black (step .white h)

theorem normaliseCastling_fix (r : RawBoard) (h : RightsOk r) : normaliseCastling r = r := by
  refine raw_ext rfl rfl (Props.C20.rights_ext _ _ fun c s => ?_) rfl rfl rfl
  rw [rHas_normaliseCastling]
  cases hr : rHas r.castling c s
  · simp
  · obtain ⟨h1, h2⟩ := h c s hr
    simp [h1, h2]

/-- on the rank the gate has checked the square ahead of the mark exists -/
theorem ep_step (p : Sq) (c : Color) (h : p.rank = epSrcRank c) :
    p.add? (forwardDelta c) = some (addU p (forwardDelta c)) := by
  revert h; cases c <;> revert p <;> decide

/-- the mark the gate keeps: the one given, if the opponent's pawn stands on it with an empty square behind -/
def epKeep (raw : RawBoard) : Option Sq :=
  raw.ep.filter fun p =>
    decide (raw.get p = Cell.mk raw.side.inv .pawn ∧ raw.get (addU p (forwardDelta raw.side)) = Cell.empty)

/-- The en-passant step of the gate: a mark on the wrong rank is the error; otherwise the step cannot fail (on the rank
it has checked the square ahead exists, so the range assertion holds) and replaces the mark by `epKeep`. -/
theorem normaliseEp_cases (raw : RawBoard) :
    (normaliseEp raw = .ok { raw with ep := epKeep raw } ∧ ∀ p, raw.ep = some p → p.rank = epSrcRank raw.side)
    ∨ ∃ p, normaliseEp raw = .err (.invalidEnpassant p) ∧ raw.ep = some p ∧ p.rank ≠ epSrcRank raw.side := by
  have hraw : ∀ e, raw.ep = e → ({ raw with ep := e } : RawBoard) = raw := fun e h => h ▸ rfl
  unfold normaliseEp epKeep
  cases hep : raw.ep with
  | none => exact .inl ⟨by rw [Option.filter_none, hraw _ hep], nofun⟩
  | some p =>
    by_cases hr : p.rank = epSrcRank raw.side
    · refine .inl ⟨?_, fun q hq => Option.some.inj hq ▸ hr⟩
      simp only [hr, ne_eq, not_true_eq_false, if_false, ep_step p raw.side hr, Option.filter_some]
      by_cases h : raw.get p = Cell.mk raw.side.inv .pawn ∧ raw.get (addU p (forwardDelta raw.side)) = Cell.empty
      · simp [h.1, h.2, hraw _ hep]
      · have h' := Decidable.not_and_iff_not_or_not.mp h
        simp [h, h']
    · exact .inr ⟨p, by simp [hr], rfl, hr⟩

theorem normaliseEp_ok (raw raw1 : RawBoard) (h : normaliseEp raw = .ok raw1) :
    raw1 = { raw with ep := epKeep raw } ∧ ∀ p, raw.ep = some p → p.rank = epSrcRank raw.side := by
  rcases normaliseEp_cases raw with ⟨h1, h2⟩ | ⟨p, h1, -⟩
  · exact ⟨Res.ok.inj (h.symm.trans h1), h2⟩
  · rw [h1] at h; cases h

theorem epKeep_some {raw : RawBoard} {q : Sq} (h : epKeep raw = some q) :
    raw.ep = some q ∧ raw.get q = Cell.mk raw.side.inv .pawn ∧ raw.get (addU q (forwardDelta raw.side)) = Cell.empty := by
  simpa [epKeep, Option.filter_eq_some_iff] using h

theorem normaliseEp_epOk (raw raw1 : RawBoard) (h : normaliseEp raw = .ok raw1) : EpOk raw1 := by
  obtain ⟨rfl, hr⟩ := normaliseEp_ok raw raw1 h
  intro q hq
  obtain ⟨h1, h2⟩ := epKeep_some hq
  exact ⟨hr q h1, h2⟩

theorem epKeep_fix {r : RawBoard} (h : EpOk r) : epKeep r = r.ep := by
  unfold epKeep
  cases hep : r.ep with
  | none => rfl
  | some p => obtain ⟨-, h2, h3⟩ := h p hep; simp [h2, h3]

theorem normaliseEp_fix (r : RawBoard) (h : EpOk r) : normaliseEp r = .ok r := by
  rcases normaliseEp_cases r with ⟨h1, -⟩ | ⟨p, -, hep, hr⟩
  · rw [h1, epKeep_fix h]
  · exact absurd (h p hep).1 hr

theorem add_forward_eq_step (p : Sq) (c : Color) :
    p.add? (forwardDelta c) = Spec.step p (0, Spec.forward c) := by
  rw [step_eq_add? p _ (by simp only [Int.add_zero]; unfold Spec.file; omega)]
  cases c <;> rfl

theorem epSrcRank_eq (p : Sq) (c : Color) : (p.rank = epSrcRank c) ↔ (Spec.rank p = Spec.epRank c) := by
  cases c <;> exact Fin.ext_iff

/-- on the right rank the mark the gate keeps is the one the specification keeps -/
theorem epKeep_spec (raw : RawBoard) (hr : ∀ p, raw.ep = some p → p.rank = epSrcRank raw.side) :
    epKeep raw = Spec.epKept (abs raw) := by
  unfold Spec.epKept epKeep
  rw [abs_ep, abs_side]
  cases hre : raw.ep with
  | none => rfl
  | some p =>
    have e1 : ((abs raw).get p = some (⟨raw.side.inv, .pawn⟩ : Spec.Man)) ↔ raw.get p = Cell.mk raw.side.inv .pawn := by
      rw [get_abs]; exact absCell_eq_some _ _ _
    have e2 : ∀ t, ((abs raw).get t).isNone = decide (raw.get t = Cell.empty) := fun t => by
      rw [get_abs]; generalize raw.get t = x; revert x; decide
    simp only [← add_forward_eq_step, ep_step p raw.side (hr p hre), Option.any_some, e1, e2, decide_eq_true_eq,
      Option.filter_some]

/-- the two normalisation steps of the gate, when the en-passant rank test passes -/
theorem abs_normalise (raw raw1 : RawBoard) (h : normaliseEp raw = .ok raw1) :
    abs (normaliseCastling raw1) = Spec.normalise (abs raw) := by
  obtain ⟨rfl, hrank⟩ := normaliseEp_ok raw raw1 h
  refine pos_ext rfl rfl ?_ (epKeep_spec raw hrank) rfl rfl
  apply rightsSet_ext
  intro c s
  obtain ⟨hk, hrk, hrq⟩ := home_squares c
  have hrs : Spec.rookHome c s = rookHomeSq c s := by cases s <;> assumption
  show (absRights (normaliseCastling _).castling).has c s = (Spec.RightsSet.ofFn _).has c s
  rw [Spec.RightsSet.has_ofFn, abs_rights_has, rHas_normaliseCastling]
  unfold Spec.rightKept
  rw [hk, hrs, get_abs_beq, get_abs_beq]
  show _ = ((absRights raw.castling).has c s && _ && _)
  rw [abs_rights_has]
  rfl

theorem len_colors (r : RawBoard) (c : Color) : ((buildBoard r).color c).len = (Spec.menOf (abs r) c).length := by
  unfold BB.len BB.toList Spec.menOf Spec.allSq Sq.all
  rw [List.filter_congr (fun s _ => by rw [color_has (buildBoard r) rfl, get_abs, any_color]; rfl :
    ∀ s ∈ List.finRange 64, ((buildBoard r).color c).has s = ((abs r).get s).any (fun m => m.color == c))]

theorem king_set_has (r : RawBoard) (c : Color) (s : Sq) :
    ((buildBoard r).piece2 c .king).has s = ((abs r).get s == some (⟨c, .king⟩ : Spec.Man)) := by
  rw [get_abs_beq, piece2_has (buildBoard r) rfl]; rfl

theorem len_kings (r : RawBoard) (c : Color) :
    ((buildBoard r).piece2 c .king).len = (Spec.kingSqs (abs r) c).length := by
  unfold BB.len BB.toList Spec.kingSqs Spec.allSq Sq.all
  rw [List.filter_congr (fun s _ => king_set_has r c s)]

theorem bad_mask (s : Sq) : (BB.ofNat Gen.badPawnPoses).has s = (decide (Spec.rank s = 0) || decide (Spec.rank s = 7)) := by
  revert s; decide +kernel

theorem pawn_sets_has (r : RawBoard) (s : Sq) :
    (((buildBoard r).piece2 .white .pawn ||| (buildBoard r).piece2 .black .pawn) &&& BB.ofNat Gen.badPawnPoses).has s
      = (((abs r).get s).any (fun m => m.piece == .pawn) && (decide (Spec.rank s = 0) || decide (Spec.rank s = 7))) := by
  rw [BB.has_and, BB.has_or, bad_mask, get_abs, any_pawn, piece2_has (buildBoard r) rfl, piece2_has (buildBoard r) rfl]
  rfl

theorem bad_pawn_iff (r : RawBoard) (s : Sq) :
    (((buildBoard r).piece2 .white .pawn ||| (buildBoard r).piece2 .black .pawn) &&& BB.ofNat Gen.badPawnPoses).has s = true
      ↔ s ∈ Spec.pawnSqs (abs r) ∧ (Spec.rank s = 0 ∨ Spec.rank s = 7) := by
  rw [pawn_sets_has, Bool.and_eq_true, Bool.or_eq_true, decide_eq_true_eq, decide_eq_true_eq]
  exact and_congr_left' ⟨fun h => List.mem_filter.mpr ⟨List.mem_finRange _, h⟩, fun h => (List.mem_filter.mp h).2⟩

def absErr : ValidateError → Spec.Reject
  | .invalidEnpassant s => .invalidEnpassant s
  | .tooManyPieces c => .tooManyPieces c
  | .noKing c => .noKing c
  | .tooManyKings c => .tooManyKings c
  | .invalidPawn s => .invalidPawn s
  | .opponentKingAttacked => .opponentKingAttacked

theorem opp_build (r : RawBoard) : isOpponentKingAttacked? (buildBoard r)
    = (Spec.kingSq (abs r) r.side.inv).map fun k => Spec.attackedBy (abs r) k r.side :=
  isOpponentKingAttacked_eq (buildBoard r) rfl

theorem kingSq_of_len (p : Spec.Pos) (c : Color) (h : (Spec.kingSqs p c).length ≠ 0) : ∃ k, Spec.kingSq p c = some k := by
  unfold Spec.kingSq
  cases hk : Spec.kingSqs p c with
  | nil => simp [hk] at h
  | cons k _ => exact ⟨k, rfl⟩

/-- what an answer of the gate's checks says about the sets it reads -/
def GateSays (B : Board) : Res ValidateError Board → Prop
  | .ok b => b = B ∧ (∀ c, (B.color c).len ≤ 16) ∧ (∀ c, (B.piece2 c .king).len = 1)
      ∧ (∀ s, ((B.piece2 .white .pawn ||| B.piece2 .black .pawn) &&& BB.ofNat Gen.badPawnPoses).has s = false)
      ∧ isOpponentKingAttacked? B = some false
  | .err (.tooManyPieces c) => (B.color c).len > 16
  | .err (.noKing c) => (B.piece2 c .king).len = 0
  | .err (.tooManyKings c) => (B.piece2 c .king).len > 1
  | .err (.invalidPawn s) =>
      ((B.piece2 .white .pawn ||| B.piece2 .black .pawn) &&& BB.ofNat Gen.badPawnPoses).has s = true
  | .err .opponentKingAttacked => isOpponentKingAttacked? B = some true
  | .err (.invalidEnpassant _) => False
  | .trap _ => (B.piece2 .white .king).len ≠ 0 ∧ (B.piece2 .black .king).len ≠ 0 ∧ isOpponentKingAttacked? B = none

/-- one test of the gate: an error if it fails, the rest of the checks otherwise -/
theorem GateSays.ite {B : Board} {c : Prop} [Decidable c] {e : ValidateError} {rest : Res ValidateError Board}
    (he : c → GateSays B (.err e)) (hr : ¬ c → GateSays B rest) : GateSays B (if c then .err e else rest) :=
  iteInduction he hr

theorem checkBoard_spec (B : Board) : GateSays B (checkBoard B) := by
  unfold checkBoard
  simp only [Gen.tooManyW, Gen.tooManyB, Gen.tooManyKingsW, Gen.tooManyKingsB, decide_eq_true_eq, isEmpty_iff_len]
  refine .ite id fun h1 => .ite id fun h2 => .ite id fun h3 => .ite id fun h4 => .ite id fun h5 => .ite id fun h6 => ?_
  cases hf : ((B.piece2 .white .pawn ||| B.piece2 .black .pawn) &&& BB.ofNat Gen.badPawnPoses).first? with
  | some p => exact first?_some _ _ hf
  | none =>
    rw [first?_none] at hf
    cases ho : isOpponentKingAttacked? B with
    | none => exact ⟨h3, h4, ho⟩
    | some v =>
      cases v
      · exact ⟨rfl, fun c => by cases c <;> exact Nat.le_of_not_gt ‹_›, fun c => by cases c <;> omega, hf, ho⟩
      · exact ho

theorem checkBoard_eq {B b : Board} (h : checkBoard B = .ok b) : b = B :=
  (h ▸ checkBoard_spec B : GateSays B (.ok b)).1

/-- an accepted input passed the en-passant step, and the answer is the board built from the normalised input, which
`checkBoard` returned as it was -/
theorem validate_built (raw : RawBoard) (b : Board) (h : validate raw = .ok b) :
    ∃ raw1, normaliseEp raw = .ok raw1 ∧ b = buildBoard (normaliseCastling raw1) ∧ checkBoard b = .ok b := by
  unfold validate at h
  cases hne : normaliseEp raw with
  | err e => rw [hne] at h; cases h
  | trap w => rw [hne] at h; cases h
  | ok raw1 =>
    rw [hne] at h
    obtain rfl := checkBoard_eq h
    exact ⟨raw1, rfl, rfl, h⟩

theorem validate_shape (raw : RawBoard) (b : Board) (h : validate raw = .ok b) : Shape b := by
  obtain ⟨raw1, hne, rfl, -⟩ := validate_built raw b h
  exact ⟨rfl, normaliseCastling_rightsOk raw1, (normaliseEp_epOk raw raw1 hne).normaliseCastling⟩

theorem checkBoard_ok_iff (B : Board) : checkBoard B = .ok B ↔
    ((∀ c, (B.color c).len ≤ 16) ∧ (∀ c, (B.piece2 c .king).len = 1)
      ∧ (∀ s, ((B.piece2 .white .pawn ||| B.piece2 .black .pawn) &&& BB.ofNat Gen.badPawnPoses).has s = false)
      ∧ isOpponentKingAttacked? B = some false) := by
  constructor
  · intro h
    have hg := checkBoard_spec B
    rw [h] at hg
    exact hg.2
  · intro ⟨h1, h2, h3, h4⟩
    have w : B.white.len ≤ 16 := h1 .white
    have k : B.black.len ≤ 16 := h1 .black
    have kw := h2 .white; have kb := h2 .black
    unfold checkBoard
    simp only [Gen.tooManyW, Gen.tooManyB, Gen.tooManyKingsW, Gen.tooManyKingsB, decide_eq_true_eq, isEmpty_iff_len]
    rw [if_neg (by omega), if_neg (by omega), if_neg (by omega), if_neg (by omega), if_neg (by omega), if_neg (by omega),
      (first?_none _).mpr h3, h4]

/-- an answer of the attack test on the opponent's king is the specification's `inCheck` -/
theorem opp_some {r : RawBoard} {v : Bool} (h : isOpponentKingAttacked? (buildBoard r) = some v) :
    Spec.inCheck (abs r) (abs r).side.inv = v := by
  rw [opp_build] at h
  obtain ⟨k, hk, rfl⟩ := Option.map_eq_some_iff.mp h
  show Spec.inCheck (abs r) r.side.inv = _
  simp [Spec.inCheck, hk]

/-- and with both kings on the board there is an answer -/
theorem opp_attacked_eq (r : RawBoard) (h : (Spec.kingSqs (abs r) r.side.inv).length ≠ 0) :
    isOpponentKingAttacked? (buildBoard r) = some (Spec.inCheck (abs r) r.side.inv) := by
  obtain ⟨k, hk⟩ := kingSq_of_len _ _ h
  rw [opp_build, hk]
  simp [Spec.inCheck, hk]

/-- the answers of the gate's checks on a built board, in the specification's terms: the board itself iff the position
meets the counting conditions and the side not to move is not in check -/
theorem checkBoard_build_iff (r : RawBoard) : checkBoard (buildBoard r) = .ok (buildBoard r) ↔
    ((∀ c, (Spec.menOf (abs r) c).length ≤ 16) ∧ (∀ c, (Spec.kingSqs (abs r) c).length = 1)
      ∧ (∀ s, s ∈ Spec.pawnSqs (abs r) → Spec.rank s ≠ 0 ∧ Spec.rank s ≠ 7)
      ∧ Spec.inCheck (abs r) (abs r).side.inv = false) := by
  rw [checkBoard_ok_iff]
  simp only [len_colors, len_kings]
  refine and_congr_right' (and_congr_right fun hk => and_congr (forall_congr' fun s => ?_) ?_)
  · rw [← Bool.not_eq_true, bad_pawn_iff, not_and, not_or]
  · rw [opp_attacked_eq r (by rw [hk]; decide), Option.some.injEq]; rfl

theorem checkBoard_err (r : RawBoard) (e : ValidateError) (h : checkBoard (buildBoard r) = .err e) :
    match e with
    | .tooManyPieces c => (Spec.menOf (abs r) c).length > 16
    | .noKing c => Spec.kingSqs (abs r) c = []
    | .tooManyKings c => (Spec.kingSqs (abs r) c).length > 1
    | .invalidPawn s => s ∈ Spec.pawnSqs (abs r) ∧ (Spec.rank s = 0 ∨ Spec.rank s = 7)
    | .opponentKingAttacked => Spec.inCheck (abs r) (abs r).side.inv = true
    | .invalidEnpassant _ => False := by
  have hg := checkBoard_spec (buildBoard r)
  rw [h] at hg
  cases e with
  | invalidEnpassant s => exact hg
  | tooManyPieces c => show _ > 16; rw [← len_colors r c]; exact hg
  | noKing c => apply List.length_eq_zero_iff.mp; rw [← len_kings r c]; exact hg
  | tooManyKings c => show _ > 1; rw [← len_kings r c]; exact hg
  | invalidPawn s => exact (bad_pawn_iff r s).mp hg
  | opponentKingAttacked => exact opp_some hg

theorem checkBoard_notrap (r : RawBoard) (w : String) : checkBoard (buildBoard r) ≠ .trap w := by
  intro h
  have hg := checkBoard_spec (buildBoard r)
  rw [h] at hg
  obtain ⟨h3, h4, hn⟩ := hg
  have hk : ∀ c, (Spec.kingSqs (abs r) c).length ≠ 0 := fun c => by rw [← len_kings]; cases c; exact h3; exact h4
  rw [opp_attacked_eq r (hk _)] at hn
  cases hn

end Owl.Lemmas
