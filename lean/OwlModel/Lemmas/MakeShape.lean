/-
`make_shape`: a well-formed semilegal move preserves `Shape` (consistent derived state, rights and en-passant mark
backed by the squares).  Backbone of C02 / C13.  Before it, which rights such a move costs (`make_rHas`: those whose king
or rook home square it names).
-/
import OwlModel.Lemmas.Shape
import OwlModel.Props.C20

namespace Owl.Lemmas
open Owl Owl.Impl

theorem srcs_has (c : Color) (s : Side) (t : Sq) :
    (castlingSrcs c s).has t = (decide (t = kingHomeSq c) || decide (t = rookHomeSq c s)) := by
  cases c <;> cases s <;> revert t <;> decide +kernel

theorem allSrcs_has (t : Sq) :
    castlingAllSrcs.has t = ((castlingSrcs .white .queen).has t || (castlingSrcs .white .king).has t
      || (castlingSrcs .black .queen).has t || (castlingSrcs .black .king).has t) := by
  revert t; decide +kernel

/-- `src` or `dst` is the king or rook home square of (c, s) -/
def touches (mv : Move) (c : Color) (s : Side) : Bool :=
  decide (mv.src = kingHomeSq c) || decide (mv.src = rookHomeSq c s)
    || decide (mv.dst = kingHomeSq c) || decide (mv.dst = rookHomeSq c s)

theorem change_srcs_nonEmpty (mv : Move) (c : Color) (s : Side) :
    ((BB.single mv.src ||| BB.single mv.dst) &&& castlingSrcs c s).nonEmpty = touches mv c s := by
  simp only [BB.pair_nonEmpty, srcs_has, touches, Bool.or_assoc]

theorem rHas_castlingAfter (r : Rights) (mv : Move) (c : Color) (s : Side) :
    rHas (castlingAfter r (BB.single mv.src ||| BB.single mv.dst)) c s = (rHas r c s && !touches mv c s) := by
  have step : ∀ (r : Rights) (t : Bool) (c' : Color) (s' : Side),
      rHas (if t = true then rWithout r c' s' else r) c s = (rHas r c s && !(t && (decide (c' = c) && decide (s' = s)))) := by
    intro r t c' s'; cases t <;> simp [Props.C20.rights_without]
  simp only [castlingAfter, List.foldl_cons, List.foldl_nil, change_srcs_nonEmpty, step]
  cases c <;> cases s <;> simp

theorem change_all_isEmpty (mv : Move) (h : ((BB.single mv.src ||| BB.single mv.dst) &&& castlingAllSrcs).isEmpty = true)
    (c : Color) (s : Side) : touches mv c s = false := by
  have h1 := BB.pair_nonEmpty mv.src mv.dst castlingAllSrcs
  rw [show (_ &&& castlingAllSrcs).nonEmpty = !(_ &&& castlingAllSrcs).isEmpty from rfl, h, allSrcs_has, allSrcs_has] at h1
  rw [← change_srcs_nonEmpty, BB.pair_nonEmpty]
  cases c <;> cases s <;> simp_all

/-- `update_castling`, told the two squares of a move, drops the rights whose home squares they are -/
theorem rHas_rightsAfter (r : Rights) (mv : Move) (c : Color) (s : Side) :
    rHas (rightsAfter r (BB.single mv.src ||| BB.single mv.dst)) c s = (rHas r c s && !touches mv c s) := by
  unfold rightsAfter
  split
  · rename_i h; rw [change_all_isEmpty mv h]; simp
  · exact rHas_castlingAfter r mv c s

theorem rHas_withoutColor (r : Rights) (c cc : Color) (s : Side) :
    rHas (rWithoutColor r c) cc s = (rHas r cc s && !decide (c = cc)) := by
  revert r; cases c <;> cases cc <;> cases s <;> decide

theorem home_ranks (c : Color) (s : Side) :
    ((kingHomeSq c).rank.val = 0 ∨ (kingHomeSq c).rank.val = 7) ∧ ((rookHomeSq c s).rank.val = 0 ∨ (rookHomeSq c s).rank.val = 7) := by
  cases c <;> cases s <;> decide

theorem geom_ranks (c : Color) :
    (doubleSrcRank c).val ≠ 0 ∧ (doubleSrcRank c).val ≠ 7 ∧ (doubleDstRank c).val ≠ 0 ∧ (doubleDstRank c).val ≠ 7
    ∧ (epSrcRank c).val ≠ 0 ∧ (epSrcRank c).val ≠ 7 ∧ (epDstRank c).val ≠ 0 ∧ (epDstRank c).val ≠ 7 := by
  cases c <;> decide

theorem no_touch_of_ranks (mv : Move) (h : mv.src.rank.val ≠ 0 ∧ mv.src.rank.val ≠ 7 ∧ mv.dst.rank.val ≠ 0 ∧ mv.dst.rank.val ≠ 7)
    (c : Color) (s : Side) : touches mv c s = false := by
  obtain ⟨hk, hr⟩ := home_ranks c s
  unfold touches
  simp only [Bool.or_eq_false_iff, decide_eq_false_iff_not]
  refine ⟨⟨⟨?_, ?_⟩, ?_⟩, ?_⟩ <;> intro e <;> rw [e] at h <;> omega

theorem home_rank_eq (c : Color) (s : Side) :
    (kingHomeSq c).rank = castlingRank c ∧ (rookHomeSq c s).rank = castlingRank c := by
  cases c <;> cases s <;> decide

theorem castlingRank_inj {c cc : Color} (h : castlingRank cc = castlingRank c) : cc = c := by
  revert h; cases c <;> cases cc <;> decide

/-- a castling names the home squares of its own colour only -/
theorem touches_castle (mv : Move) (c cc : Color) (s : Side) (hs : mv.src = kingHomeSq c)
    (hd : mv.dst.rank = castlingRank c) : touches mv cc s = decide (c = cc) := by
  obtain ⟨hk, hr⟩ := home_rank_eq cc s
  unfold touches
  by_cases e : c = cc
  · subst e; simp [hs]
  · have hne : ∀ t : Sq, t.rank = castlingRank cc → (mv.src ≠ t ∧ mv.dst ≠ t) := by
      intro t ht
      constructor <;> intro e' <;> apply e <;> apply castlingRank_inj
      · rw [← ht, ← e', hs, (home_rank_eq c s).1]
      · rw [← ht, ← e', hd]
    simp [e, hne _ hk, hne _ hr]

/-- a well-formed semilegal move costs exactly the rights whose king or rook home square is its source or its destination
(for a pawn that is none, for a castling both of its own colour) -/
theorem make_rHas (b : Board) (mv : Move) (hwf : mv.isWellFormed = true) (hsl : isSemilegal b mv = true)
    (cc : Color) (sd : Side) :
    rHas (makeMove b mv).1.r.castling cc sd = (rHas b.r.castling cc sd && !touches mv cc sd) := by
  rw [make_castling, (makeBody_header ..).1, clearEp_castling]
  obtain ⟨g1, g2, g3, g4, g5, g6, g7, g8⟩ := geom_ranks b.r.side
  apply sl_cases b ?_ mv hwf hsl
  intro k p s d _ _ _ h
  cases h with
  | piece hg =>
    have : Cell.mk b.r.side p ≠ Cell.mk b.r.side .pawn := by
      intro e; rw [(mk_inj e).2] at hg; cases hg
    simp only [if_pos this]; exact rHas_rightsAfter _ ⟨_, _, s, d⟩ cc sd
  | pawn s0 s7 d0 d7 =>
    simp only [ne_eq, not_true_eq_false, if_false]
    rw [rightsAfter_zero, no_touch_of_ranks ⟨_, _, s, d⟩ ⟨s0, s7, d0, d7⟩]; simp
  | promo hk =>
    revert hk
    cases k <;> simp only [Kind.promote, Option.isSome_none, Option.isSome_some, Bool.false_eq_true, false_imp_iff,
      true_imp_iff] <;> exact rHas_rightsAfter _ ⟨_, _, s, d⟩ cc sd
  | double _ hs hd =>
    rw [no_touch_of_ranks ⟨_, _, s, d⟩ (by simp only [hs, hd]; exact ⟨g1, g2, g3, g4⟩)]; simp
  | ep _ hs hd =>
    rw [no_touch_of_ranks ⟨_, _, s, d⟩ (by simp only [hs, hd]; exact ⟨g5, g6, g7, g8⟩)]; simp
  | castleK hs hd => rw [rHas_withoutColor, touches_castle ⟨_, _, s, d⟩ b.r.side cc sd hs (by rw [hd]; simp)]
  | castleQ hs hd => rw [rHas_withoutColor, touches_castle ⟨_, _, s, d⟩ b.r.side cc sd hs (by rw [hd]; simp)]

theorem ep_victim (b : Board) (mv : Move) (hs : Shape b) (hwf : mv.isWellFormed = true)
    (hsl : isSemilegal b mv = true) (hk : mv.kind = .ep) :
    ∃ p, b.r.ep = some p ∧ addU mv.dst (-(forwardDelta b.r.side)) = p := by
  revert hk
  apply sl_cases b ?_ mv hwf hsl
  intro k p s d _ _ _ h hk
  subst hk
  cases h with
  | promo hk => cases hk
  | ep q _ _ _ hep _ hdq =>
    obtain ⟨hrank, _, _⟩ := hs.ep q hep
    exact ⟨q, hep, by rw [hdq, (ep_arith q b.r.side hrank).1]⟩

theorem make_rights_sub (b : Board) (mv : Move) (hwf : mv.isWellFormed = true) (hsl : isSemilegal b mv = true)
    (cc : Color) (s : Side) (h : rHas (makeMove b mv).1.r.castling cc s = true) :
    rHas b.r.castling cc s = true ∧ touches mv cc s = false
      ∧ ((∃ sd, mv.kind = castleKind sd) → cc ≠ b.r.side) := by
  rw [make_rHas b mv hwf hsl, Bool.and_eq_true, Bool.not_eq_true'] at h
  refine ⟨h.1, h.2, fun ⟨sd, hk⟩ e => ?_⟩
  have : mv.src = kingHomeSq cc := e ▸ (castle_semi b mv hwf hsl sd hk).1
  simp [touches, this] at h

/-- the square a double step passes, seen from both ends; only the file varies, so eight squares per colour are evaluated -/
theorem double_arith (c : Color) (src dst : Sq) (hf : src.file = dst.file) (h1 : src.rank = doubleSrcRank c)
    (h2 : dst.rank = doubleDstRank c) :
    addU dst (forwardDelta c.inv) = addU src (forwardDelta c) ∧ addU src (forwardDelta c) ≠ src
      ∧ addU src (forwardDelta c) ≠ dst ∧ dst.rank = epSrcRank c.inv := by
  have key : ∀ f : Fin 8,
      addU (Sq.mk f (doubleDstRank c)) (forwardDelta c.inv) = addU (Sq.mk f (doubleSrcRank c)) (forwardDelta c)
      ∧ addU (Sq.mk f (doubleSrcRank c)) (forwardDelta c) ≠ Sq.mk f (doubleSrcRank c)
      ∧ addU (Sq.mk f (doubleSrcRank c)) (forwardDelta c) ≠ Sq.mk f (doubleDstRank c)
      ∧ (Sq.mk f (doubleDstRank c)).rank = epSrcRank c.inv := by
    cases c <;> decide
  have hs : Sq.mk dst.file (doubleSrcRank c) = src := by rw [← hf, ← h1, Sq.mk_file_rank]
  have hd : Sq.mk dst.file (doubleDstRank c) = dst := by rw [← h2, Sq.mk_file_rank]
  have := key dst.file
  rwa [hs, hd] at this

/-- C02/C13: a well-formed semilegal move keeps the derived state consistent and the rights and en-passant
mark backed by the squares -/
theorem make_shape (b : Board) (mv : Move) (hs : Shape b) (hwf : mv.isWellFormed = true)
    (hsl : isSemilegal b mv = true) : Shape (makeMove b mv).1 := by
  have ok := makeOk_of_semilegal b mv hs hwf hsl
  refine ⟨make_consistent b mv hs.cons ok, ?_, ?_⟩
  · intro cc s hr
    obtain ⟨hr0, hnt, hcas⟩ := make_rights_sub b mv hwf hsl cc s hr
    obtain ⟨hkh, hrh⟩ := hs.rights cc s hr0
    unfold touches at hnt
    simp only [Bool.or_eq_false_iff, decide_eq_false_iff_not] at hnt
    obtain ⟨⟨⟨n1, n2⟩, n3⟩, n4⟩ := hnt
    obtain ⟨rk, rr⟩ := home_rank_eq cc s
    have hepn : ∀ t : Sq, (t.rank.val = 0 ∨ t.rank.val = 7) → mv.kind = .ep →
        t ≠ addU mv.dst (-(forwardDelta b.r.side)) := by
      intro t ht hk e
      obtain ⟨p, hep, hv⟩ := ep_victim b mv hs hwf hsl hk
      obtain ⟨hrank, _, _⟩ := hs.ep p hep
      obtain ⟨_, _, _, _, g5, g6, _⟩ := geom_ranks b.r.side
      rw [hv] at e
      rw [e, hrank] at ht
      omega
    obtain ⟨hk07, hr07⟩ := home_ranks cc s
    constructor
    · show (makeMove b mv).1.get (kingHomeSq cc) = _
      rw [make_get_other b mv _ (fun e => n1 e.symm) (fun e => n3 e.symm)
        (fun hk e => hcas hk (castlingRank_inj (rk ▸ e))) (hepn _ hk07)]
      exact hkh
    · show (makeMove b mv).1.get (rookHomeSq cc s) = _
      rw [make_get_other b mv _ (fun e => n2 e.symm) (fun e => n4 e.symm)
        (fun hk e => hcas hk (castlingRank_inj (rr ▸ e))) (hepn _ hr07)]
      exact hrh
  · intro p hp
    rw [make_ep] at hp
    split at hp
    · rename_i hkk
      cases hp
      obtain ⟨hf, hr1, hr2, he1, _⟩ := sl_double b mv hwf hsl hkk
      obtain ⟨a1, a2, a3, a4⟩ := double_arith b.r.side mv.src mv.dst hf hr1 hr2
      rw [make_side]
      refine ⟨a4, ?_, ?_⟩
      · show (makeMove b mv).1.get mv.dst = _
        rw [post_get b mv ⟨by simp [hkk], by simp [hkk], by simp [hkk]⟩]
        simp only [hkk, reduceCtorEq, false_and, if_false, relocate_dst, newCell, Color.inv_inv]
      · show (makeMove b mv).1.get _ = _
        rw [a1, make_get_other b mv _ a2 a3
          (fun ⟨sd, h⟩ => by cases sd <;> simp [hkk, castleKind] at h) (by simp [hkk])]
        exact he1
    · cases hp

end Owl.Lemmas
