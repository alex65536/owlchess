/-
Geometry of `Spec.step`, `Spec.ray`, `Spec.slide` and `Spec.between` in coordinates (`Spec.file`, `Spec.rank` as
integers): a ray in a compass direction `d` reaches exactly the squares `s + k·d`, `k > 0`, and passes the `s + j·d`,
`0 < j < k`, on the way. The opposite ray, alignment and betweenness are linear arithmetic after that; so is that the
rays from one square share no square (`rays_nodup`), with `Spec.onRay` as `between` at the end.
-/
import OwlModel.Spec.Rules

namespace Owl.Props.C18
open Owl Owl.Spec

theorem sq_ext {a b : Sq} (hf : file a = file b) (hr : rank a = rank b) : a = b := by
  apply Fin.ext; unfold file rank at *; omega

end Owl.Props.C18

namespace Owl.Lemmas
open Owl Owl.Spec

theorem mkSq?_eq_some (f r : Int) (t : Sq) :
    mkSq? f r = some t ↔ ((file t : Int) = f ∧ (rank t : Int) = r) := by
  unfold mkSq?
  split
  · rename_i h
    simp only [Option.some.injEq]
    constructor
    · intro e; subst e; simp only [file, rank]; omega
    · intro ⟨h1, h2⟩; apply Fin.ext; simp only [file, rank] at h1 h2; simp only; omega
  · rename_i h
    constructor
    · intro e; cases e
    · intro ⟨h1, h2⟩; exfalso; apply h; have := t.isLt; simp only [file, rank] at h1 h2; omega

theorem step_eq_some (s t : Sq) (d : Int × Int) :
    step s d = some t ↔ ((file t : Int) = (file s : Int) + d.1 ∧ (rank t : Int) = (rank s : Int) + d.2) :=
  mkSq?_eq_some _ _ _

def negDir (d : Int × Int) : Int × Int := (-d.1, -d.2)

theorem step_neg (s t : Sq) (d : Int × Int) : step s d = some t ↔ step t (negDir d) = some s := by
  simp only [step_eq_some, negDir]; omega

/-- a step that stays within the files of the board is `Coord::add` of `8·Δrank + Δfile` -/
theorem step_eq_add? (s : Sq) (d : Int × Int) (h : 0 ≤ (file s : Int) + d.1 ∧ (file s : Int) + d.1 < 8) :
    step s d = s.add? (d.2 * 8 + d.1) := by
  have := s.isLt
  unfold step mkSq? Sq.add?
  simp only
  by_cases hc : 0 ≤ (file s : Int) + d.1 ∧ (file s : Int) + d.1 < 8 ∧ 0 ≤ (rank s : Int) + d.2 ∧ (rank s : Int) + d.2 < 8
  · rw [dif_pos hc, dif_pos (by unfold file rank at *; omega)]
    congr 1; apply Fin.ext; unfold file rank at *; simp only; omega
  · rw [dif_neg hc, dif_neg (by unfold file rank at *; omega)]

def Along (d : Int × Int) (k : Int) (s t : Sq) : Prop :=
  (file t : Int) = file s + k * d.1 ∧ (rank t : Int) = rank s + k * d.2

/-- one of the eight compass directions -/
def UnitDir (d : Int × Int) : Prop := d ∈ kingSteps

theorem along_one (d : Int × Int) (s u : Sq) : Along d 1 s u ↔ step s d = some u := by
  rw [step_eq_some]; unfold Along; omega

theorem along_add {d : Int × Int} {j k : Int} {s x t : Sq} (h1 : Along d j s x) (h2 : Along d k x t) :
    Along d (j + k) s t := by
  unfold Along at *; rw [Int.add_mul, Int.add_mul]; omega

theorem along_sub {d : Int × Int} {j k : Int} {s x t : Sq} (h1 : Along d j s x) (h2 : Along d k s t) :
    Along d (k - j) x t := by
  unfold Along at *; rw [Int.sub_mul, Int.sub_mul]; omega

theorem along_neg (d : Int × Int) (k : Int) (s t : Sq) : Along (negDir d) k t s ↔ Along d k s t := by
  unfold Along negDir; simp only [Int.mul_neg]; omega

theorem along_eq {d : Int × Int} {s x u : Sq} {k : Int} (h1 : Along d k s x) (h2 : Along d k s u) : x = u := by
  unfold Along at *; exact Props.C18.sq_ext (by omega) (by omega)

/-- towards a square of the board the first step stays on the board -/
theorem step_of_along {d : Int × Int} (hd : UnitDir d) {s t : Sq} {k : Int} (hk : 0 < k) (h : Along d k s t) :
    ∃ u, step s d = some u := by
  have hb : (file s : Int) < 8 ∧ (rank s : Int) < 8 ∧ (file t : Int) < 8 ∧ (rank t : Int) < 8 := by
    have := s.isLt; have := t.isLt; unfold file rank; omega
  unfold step mkSq?
  split
  · exact ⟨_, rfl⟩
  · rename_i hn
    exfalso; apply hn
    unfold Along at h
    simp only [UnitDir, kingSteps, List.mem_cons, List.not_mem_nil, or_false] at hd
    rcases hd with rfl | rfl | rfl | rfl | rfl | rfl | rfl | rfl <;> simp only at * <;> omega

/-- the signs of the file and rank differences determine the direction -/
theorem along_sign {d : Int × Int} (hd : UnitDir d) {s t : Sq} {k : Int} (hk : 0 < k) (h : Along d k s t) :
    -1 ≤ d.1 ∧ d.1 ≤ 1 ∧ -1 ≤ d.2 ∧ d.2 ≤ 1 ∧ (d.1 ≠ 0 ∨ d.2 ≠ 0)
    ∧ (0 < d.1 ↔ file s < file t) ∧ (d.1 < 0 ↔ file t < file s)
    ∧ (0 < d.2 ↔ rank s < rank t) ∧ (d.2 < 0 ↔ rank t < rank s) := by
  unfold Along at h
  simp only [UnitDir, kingSteps, List.mem_cons, List.not_mem_nil, or_false] at hd
  rcases hd with rfl | rfl | rfl | rfl | rfl | rfl | rfl | rfl <;> simp only at * <;> omega

theorem along_ne {d : Int × Int} (hd : UnitDir d) {s t : Sq} {k : Int} (hk : 0 < k) (h : Along d k s t) : s ≠ t := by
  have := along_sign hd hk h
  rintro rfl; omega

/-- two different compass rays from one square share no square -/
theorem along_dir_unique {d d' : Int × Int} (hd : UnitDir d) (hd' : UnitDir d') {s t : Sq} {k k' : Int}
    (hk : 0 < k) (hk' : 0 < k') (h : Along d k s t) (h' : Along d' k' s t) : d = d' := by
  obtain ⟨a1, a2, a3, a4, _, a5, a6, a7, a8⟩ := along_sign hd hk h
  obtain ⟨b1, b2, b3, b4, _, b5, b6, b7, b8⟩ := along_sign hd' hk' h'
  apply Prod.ext
  -- each component follows from the facts about its own coordinate; `omega` is much quicker without the others
  · clear a3 a4 a7 a8 b3 b4 b7 b8; omega
  · clear a1 a2 a5 a6 b1 b2 b5 b6; omega

theorem unitDir_neg {d : Int × Int} (hd : UnitDir d) : UnitDir (negDir d) := by
  revert hd; unfold UnitDir negDir kingSteps; simp only [List.mem_cons, List.not_mem_nil, or_false]
  rintro (rfl | rfl | rfl | rfl | rfl | rfl | rfl | rfl) <;> decide

theorem mem_ray_iff {d : Int × Int} (hd : UnitDir d) (t : Sq) :
    ∀ (n : Nat) (s : Sq), t ∈ ray d n s ↔ ∃ k : Int, 0 < k ∧ k ≤ n ∧ Along d k s t
  | 0, s => by
    simp only [ray, List.not_mem_nil, false_iff]
    rintro ⟨k, h1, h2, _⟩; omega
  | n+1, s => by
    unfold ray
    cases hu : step s d with
    | none =>
      simp only [List.not_mem_nil, false_iff]
      rintro ⟨k, h1, _, h3⟩
      obtain ⟨u, hu'⟩ := step_of_along hd h1 h3
      rw [hu] at hu'; cases hu'
    | some u =>
      have hs := (along_one d s u).mpr hu
      simp only [List.mem_cons, mem_ray_iff hd t n u]
      constructor
      · rintro (e | ⟨k, h1, h2, h3⟩)
        · subst e; exact ⟨1, by omega, by omega, hs⟩
        · exact ⟨1 + k, by omega, by omega, along_add hs h3⟩
      · rintro ⟨k, h1, h2, h3⟩
        by_cases e : k = 1
        · subst e; exact Or.inl (along_eq h3 hs)
        · exact Or.inr ⟨k - 1, by omega, by omega, along_sub hs h3⟩

/-- the squares a ray passes before it reaches `t = s + k·d` are the `s + j·d` with `0 < j < k` -/
theorem mem_takeWhile_ray {d : Int × Int} (hd : UnitDir d) (t x : Sq) :
    ∀ (n : Nat) (s : Sq) (k : Int), 0 < k → k ≤ n → Along d k s t →
      (x ∈ (ray d n s).takeWhile (· ≠ t) ↔ ∃ j : Int, 0 < j ∧ j < k ∧ Along d j s x)
  | 0, s, k => by intro h1 h2; omega
  | n+1, s, k => by
    intro h1 h2 h3
    obtain ⟨u, hu⟩ := step_of_along hd h1 h3
    have hs := (along_one d s u).mpr hu
    unfold ray; rw [hu]
    by_cases e : k = 1
    · subst e
      have : u = t := along_eq hs h3
      subst this
      simp only [List.takeWhile_cons, ne_eq, not_true_eq_false, decide_false, Bool.false_eq_true, if_false,
        List.not_mem_nil, false_iff]
      rintro ⟨j, _, _, _⟩; omega
    · have hut := along_sub hs h3
      have hne : u ≠ t := along_ne hd (by omega) hut
      simp only [List.takeWhile_cons, ne_eq, hne, not_false_eq_true, decide_true, if_true, List.mem_cons,
        mem_takeWhile_ray hd t x n u (k - 1) (by omega) (by omega) hut]
      constructor
      · rintro (e | ⟨j, h1, h2, h3⟩)
        · subst e; exact ⟨1, by omega, by omega, hs⟩
        · exact ⟨1 + j, by omega, by omega, along_add hs h3⟩
      · rintro ⟨j, h1, h2, h3⟩
        by_cases e : j = 1
        · subst e; exact Or.inl (along_eq h3 hs)
        · exact Or.inr ⟨j - 1, by omega, by omega, along_sub hs h3⟩

/-- the ray back from `t` reaches `s` … -/
theorem mem_ray_neg {d : Int × Int} (hd : UnitDir d) (n : Nat) (s t : Sq) :
    s ∈ ray (negDir d) n t ↔ t ∈ ray d n s := by
  simp only [mem_ray_iff hd, mem_ray_iff (unitDir_neg hd), along_neg]

/-- … past the same squares -/
theorem mem_takeWhile_ray_neg {d : Int × Int} (hd : UnitDir d) {n : Nat} {s t : Sq} (ht : t ∈ ray d n s) (x : Sq) :
    x ∈ (ray (negDir d) n t).takeWhile (· ≠ s) ↔ x ∈ (ray d n s).takeWhile (· ≠ t) := by
  obtain ⟨k, h1, h2, h3⟩ := (mem_ray_iff hd t n s).mp ht
  rw [mem_takeWhile_ray hd t x n s k h1 h2 h3,
    mem_takeWhile_ray (unitDir_neg hd) s x n t k h1 h2 ((along_neg d k s t).mpr h3)]
  constructor
  · rintro ⟨j, g1, g2, g3⟩
    have := along_sub g3 ((along_neg d k s t).mpr h3)
    rw [along_neg] at this
    exact ⟨k - j, by omega, by omega, this⟩
  · rintro ⟨j, g1, g2, g3⟩
    have := along_sub g3 h3
    rw [← along_neg] at this
    exact ⟨k - j, by omega, by omega, this⟩

theorem mem_reach_iff (occ : Sq → Bool) (t : Sq) :
    ∀ l : List Sq, t ∈ reach occ l ↔ (t ∈ l ∧ ∀ x ∈ l.takeWhile (· ≠ t), occ x = false)
  | [] => by simp [reach]
  | a :: rest => by
    have ih := mem_reach_iff occ t rest
    by_cases hat : a = t
    · subst hat
      by_cases ho : occ a <;> simp [reach, ho]
    · have hta : ¬ t = a := fun e => hat e.symm
      by_cases ho : occ a
      · simp [reach, ho, hat, hta]
      · simp only [reach, ho, Bool.false_eq_true, if_false, List.mem_cons, hta, false_or, ih]
        simp [List.takeWhile, hat, ho]

theorem mem_slide_iff (dirs : List (Int × Int)) (occ : Sq → Bool) (s t : Sq) :
    t ∈ slide dirs occ s ↔
      ∃ d ∈ dirs, t ∈ ray d 7 s ∧ ∀ x ∈ (ray d 7 s).takeWhile (· ≠ t), occ x = false := by
  unfold slide
  simp only [List.mem_flatMap, mem_reach_iff]

def Compass (dirs : List (Int × Int)) : Prop := ∀ d ∈ dirs, UnitDir d ∧ negDir d ∈ dirs

theorem compass_rook : Compass rookDirs := by unfold Compass UnitDir; decide
theorem compass_bishop : Compass bishopDirs := by unfold Compass UnitDir; decide

theorem slide_symm {dirs : List (Int × Int)} (hc : Compass dirs) (occ : Sq → Bool) (s t : Sq) :
    t ∈ slide dirs occ s ↔ s ∈ slide dirs occ t := by
  suffices h : ∀ s t, t ∈ slide dirs occ s → s ∈ slide dirs occ t from ⟨h s t, h t s⟩
  intro s t
  simp only [mem_slide_iff]
  rintro ⟨d, hd, hmem, hfree⟩
  obtain ⟨hu, hn⟩ := hc d hd
  exact ⟨negDir d, hn, (mem_ray_neg hu 7 s t).mpr hmem,
    fun x hx => hfree x ((mem_takeWhile_ray_neg hu hmem x).mp hx)⟩

/-- a ray that contains `t` is the one `between` picks -/
theorem between_of_ray {dirs : List (Int × Int)} (hc : ∀ d ∈ dirs, UnitDir d) (s t : Sq) {d : Int × Int}
    (hd : d ∈ dirs) (ht : t ∈ ray d 7 s) : between dirs s t = some ((ray d 7 s).takeWhile (· ≠ t)) := by
  unfold between
  induction dirs with
  | nil => cases hd
  | cons d' ds ih =>
    by_cases hc' : t ∈ ray d' 7 s
    · obtain ⟨k, h1, _, h3⟩ := (mem_ray_iff (hc d hd) t 7 s).mp ht
      obtain ⟨k', h1', _, h3'⟩ := (mem_ray_iff (hc d' (by simp)) t 7 s).mp hc'
      have := along_dir_unique (hc d hd) (hc d' (by simp)) h1 h1' h3 h3'
      subst this
      simp [ht]
    · have hne : d ≠ d' := by rintro rfl; exact hc' ht
      have := ih (fun e he => hc e (List.mem_cons_of_mem _ he)) ((List.mem_cons.mp hd).resolve_left hne)
      simpa [List.findSome?_cons, hc'] using this

/-- `between` in coordinates: the pair is `k` steps apart along one of the directions, and the list holds the squares
`j` steps along for `0 < j < k` -/
theorem between_eq_some {dirs : List (Int × Int)} (hc : ∀ d ∈ dirs, UnitDir d) {s t : Sq} {l : List Sq}
    (h : between dirs s t = some l) :
    ∃ d ∈ dirs, ∃ k : Int, 0 < k ∧ k ≤ 7 ∧ Along d k s t ∧ ∀ x, x ∈ l ↔ ∃ j : Int, 0 < j ∧ j < k ∧ Along d j s x := by
  unfold between at h
  obtain ⟨d, hd, hdd⟩ := List.exists_of_findSome?_eq_some h
  simp only at hdd
  split at hdd
  · rename_i hm
    injection hdd with hdd
    obtain ⟨k, h1, h2, h3⟩ := (mem_ray_iff (hc d hd) t 7 s).mp (by simpa using hm)
    exact ⟨d, hd, k, h1, h2, h3, fun x => by rw [← hdd]; exact mem_takeWhile_ray (hc d hd) t x 7 s k h1 h2 h3⟩
  · cases hdd

theorem between_of_along {dirs : List (Int × Int)} (hc : ∀ d ∈ dirs, UnitDir d) {s t : Sq} {d : Int × Int}
    (hd : d ∈ dirs) {k : Int} (h1 : 0 < k) (h2 : k ≤ 7) (h3 : Along d k s t) :
    ∃ l, between dirs s t = some l ∧ ∀ x, x ∈ l ↔ ∃ j : Int, 0 < j ∧ j < k ∧ Along d j s x :=
  ⟨_, between_of_ray hc s t hd ((mem_ray_iff (hc d hd) t 7 s).mpr ⟨k, h1, h2, h3⟩),
    fun x => mem_takeWhile_ray (hc d hd) t x 7 s k h1 h2 h3⟩

/-- aligned squares with nothing on the squares between see each other along the ray walk -/
theorem slide_of_between (dirs : List (Int × Int)) (occ : Sq → Bool) (a b : Sq) (l : List Sq)
    (hb : between dirs a b = some l) (hfree : ∀ x ∈ l, occ x = false) : b ∈ slide dirs occ a := by
  unfold between at hb
  obtain ⟨d, hd, hdd⟩ := List.exists_of_findSome?_eq_some hb
  simp only at hdd
  split at hdd
  · rename_i hc
    injection hdd with hdd
    rw [mem_slide_iff]
    refine ⟨d, hd, by simpa using hc, ?_⟩
    rw [hdd]; exact hfree
  · cases hdd

theorem reach_sublist (occ : Sq → Bool) : ∀ l : List Sq, (Spec.reach occ l).Sublist l
  | [] => List.Sublist.refl _
  | t :: rest => by
    unfold Spec.reach
    by_cases h : occ t = true
    · rw [if_pos h]; exact List.Sublist.cons_cons _ (List.nil_sublist _)
    · rw [if_neg h]; exact List.Sublist.cons_cons _ (reach_sublist occ rest)

theorem slide_sublist (occ : Sq → Bool) (s : Sq) : ∀ dirs : List (Int × Int),
    (Spec.slide dirs occ s).Sublist (dirs.flatMap fun d => Spec.ray d 7 s)
  | [] => List.Sublist.refl _
  | d :: ds => by
    unfold Spec.slide
    rw [List.flatMap_cons, List.flatMap_cons]
    exact List.Sublist.append (reach_sublist occ _) (slide_sublist occ s ds)

theorem ray_nodup {d : Int × Int} (hd : UnitDir d) : ∀ (n : Nat) (s : Sq), (Spec.ray d n s).Nodup
  | 0, _ => List.nodup_nil
  | n + 1, s => by
    unfold Spec.ray
    cases hu : Spec.step s d with
    | none => exact List.nodup_nil
    | some u =>
      refine List.nodup_cons.mpr ⟨fun h => ?_, ray_nodup hd n u⟩
      obtain ⟨k, hk, _, ha⟩ := (mem_ray_iff hd u n u).mp h
      exact along_ne hd hk ha rfl

/-- rays from a square in different compass directions share no square -/
theorem rays_nodup (pc : Piece) (s : Sq) : ((Spec.dirsOf pc).flatMap fun d => Spec.ray d 7 s).Nodup := by
  have hu : ∀ d ∈ Spec.dirsOf pc, UnitDir d := by unfold UnitDir; cases pc <;> decide
  unfold List.Nodup
  rw [List.pairwise_flatMap]
  refine ⟨fun d hd => ray_nodup (hu d hd) 7 s,
    List.Pairwise.imp_of_mem (fun {d d'} hd hd' hne t ht t' ht' e => hne ?_)
      (by cases pc <;> decide : (Spec.dirsOf pc).Nodup)⟩
  subst e
  obtain ⟨k, hk, _, ha⟩ := (mem_ray_iff (hu d hd) t 7 s).mp ht
  obtain ⟨k', hk', _, ha'⟩ := (mem_ray_iff (hu d' hd') t 7 s).mp ht'
  exact along_dir_unique (hu d hd) (hu d' hd') hk hk' ha ha'

theorem onRay_eq_between (dirs : List (Int × Int)) (s d : Sq) :
    Spec.onRay dirs s d = (Spec.between dirs s d).isSome := by
  unfold Spec.onRay Spec.between
  induction dirs with
  | nil => rfl
  | cons a t ih =>
    rw [List.any_cons, List.findSome?_cons, ih]
    cases h : (Spec.ray a 7 s).contains d
    · simp only [h, Bool.false_eq_true, ↓reduceIte, Bool.false_or]
    · simp only [h, ↓reduceIte, Bool.true_or, Option.isSome_some]

theorem onRay_append (a b : List (Int × Int)) (s d : Sq) :
    Spec.onRay (a ++ b) s d = (Spec.onRay a s d || Spec.onRay b s d) := by
  simp [Spec.onRay, List.any_append]

end Owl.Lemmas
