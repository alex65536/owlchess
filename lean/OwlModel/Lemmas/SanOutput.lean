/-
C09 (input, completeness): a legal move that agrees with a pawn push, a pawn capture or a castling symbol is what
`into_move` returns (`pawnMove_complete`, `pawnCapture_complete`, `castling_complete`); hence the returned move is the
only legal move that agrees (`san_unique`) and only the searched forms can be ambiguous (`san_ambiguity_reported`).
C09 (output): for every valid position and legal move, `san::Data::from_move` writes data that agree with the move
and, by completeness, resolve back to it (`sanData_roundtrip`), the text parses back (`san_text_reparse`,
`san_text_roundtrip`), distinct moves get distinct texts (`san_text_injective`), and the text is the rules' standard
notation `Spec.San.write` (`san_text_standard`; origin hints `piece_dis`, capture mark `pawn_isCapture`, check mark
`sanFromMove_spec`).
-/
import OwlModel.Lemmas.SanSound
import OwlModel.Props.C07
namespace Owl.Props.C09
open Owl Owl.Impl Owl.Lemmas Owl.Props

theorem rankStep_ep (c : Color) (s d : Sq) (h1 : s.rank = epSrcRank c) (h2 : d.rank = epDstRank c) : rankStep c s d := by
  unfold rankStep
  rw [h1, h2]
  cases c <;> decide

theorem geo_epDest (c : Color) : ∀ p : Sq, p.rank = epSrcRank c →
    Sq.mk p.file (epDstRank c) = addU p (forwardDelta c) := by
  cases c <;> decide

theorem epDest_eq (b : Board) (hv : Valid b) (p : Sq) (hp : b.r.ep = some p) :
    b.r.epDest = some (addU p (forwardDelta b.r.side)) := by
  unfold RawBoard.epDest; rw [hp]; simp only; rw [geo_epDest _ p (hv.shape.ep p hp).1]

theorem epDest_free (b : Board) (hv : Valid b) (d : Sq) (h : some d = b.r.epDest) : b.get d = Cell.empty := by
  cases hp : b.r.ep with
  | none => unfold RawBoard.epDest at h; rw [hp] at h; cases h
  | some p => rw [epDest_eq b hv p hp] at h; cases h; exact (hv.shape.ep p hp).2.2

/-- what `into_move` does on a pawn push once the square behind `d` is known (its one unfolding for this form) -/
theorem pawnMove_resolve (b : Board) (k k0 : Kind) (s d src0 : Sq) (promote : Option Piece)
    (hl : Legal b (mkMove b.r.side k .pawn s d))
    (hrank : d.rank ≠ promoteDstRank b.r.side.inv)
    (hadd : d.add? (-(forwardDelta b.r.side)) = some src0)
    (hsk : (if !(b.get src0).isOcc then (Sq.mk d.file (doubleSrcRank b.r.side), Kind.double) else (src0, Kind.simple))
      = (s, k0))
    (hk : (match promote with | some p => promoteKind p | none => k0) = k) :
    sanIntoMove (.pawnMove d promote) b = .ok (mkMove b.r.side k .pawn s d) := by
  subst hk
  have hnew := new?_wf _ _ _ _ hl.1
  have hval := validateInto_legal b _ hl
  unfold sanIntoMove
  simp only [hrank, if_false, hadd, hsk]
  cases promote <;> (dsimp only at hnew hval ⊢; rw [hnew]; exact hval)

theorem pawnMove_complete (b : Board) (dst : Sq) (promote : Option Piece) (m : Move) (hl : Legal b m)
    (ha : Agrees b (.pawnMove dst promote) m) : sanIntoMove (.pawnMove dst promote) b = .ok m := by
  obtain ⟨k, cell, s, d⟩ := m
  obtain ⟨hcell, hdst, hfile, hpromo⟩ := ha
  simp only at hcell hdst hfile hpromo
  subst hcell hdst
  obtain ⟨g1, hsemi⟩ := (sl_mk b k .pawn s d).mp ⟨hl.1, hl.2.1⟩
  -- a written promotion fixes the kind; without one it is the kind `into_move` infers
  have run : ∀ src0 k0, d.rank ≠ promoteDstRank b.r.side.inv → d.add? (-(forwardDelta b.r.side)) = some src0 →
      (if !(b.get src0).isOcc then (Sq.mk d.file (doubleSrcRank b.r.side), Kind.double) else (src0, Kind.simple)) = (s, k0) →
      (promote = none → k = k0) → sanIntoMove (.pawnMove d promote) b = .ok (mkMove b.r.side k .pawn s d) := by
    intro src0 k0 hrank hadd hsk hk
    refine pawnMove_resolve b k k0 s d src0 promote hl hrank hadd hsk ?_
    cases promote with
    | none => exact (hk rfl).symm
    | some p => exact (show k = promoteKind p from hpromo).symm
  -- a single step, promoting or not: the square behind `d` holds the pawn
  have single : rankStep b.r.side s d → (promote = none → k = .simple) → _ := fun gs hk =>
    run s .simple (rankStep_dst gs) (by rw [← (back_iff _ _ _ _).mpr ⟨hfile, gs⟩, Sq.mk_file_rank])
      (by rw [g1, (isOcc_iff _).mpr (mk_ne_zero _ _)]; rfl) hk
  cases hsemi with
  | piece hg => cases hg
  | pawn _ _ _ _ gs => exact single gs fun _ => rfl
  | promo hk hs hd =>
    refine single ((pg_promo _ s d hs).mp hd) fun e => ?_
    subst e; rw [show k.promote = none from hpromo] at hk; cases hk
  | double hf hs hd he _ =>
    -- a double step: the square behind `d` is empty, the pawn stands on its home rank
    obtain ⟨hr, hadd⟩ := back_double b.r.side s.file
    rw [← hs, Sq.mk_file_rank, hf, ← hd, Sq.mk_file_rank] at hadd
    refine run _ .double (hd ▸ hr) hadd ?_ fun _ => rfl
    rw [he, ← hf, ← hs, Sq.mk_file_rank]; rfl
  | ep _ _ _ hdiff => exact absurd hfile (file_ne_of_diff hdiff)

/-- `Agrees` does not say that the move changes file ("exe4" agrees with a push), hence `hne` -/
theorem pawnCapture_complete (b : Board) (hv : Valid b) (f : Fin 8) (dst : Sq) (promote : Option Piece) (m : Move)
    (hl : Legal b m) (ha : Agrees b (.pawnCapture f dst promote) m) (hne : m.src.file ≠ m.dst.file) :
    sanIntoMove (.pawnCapture f dst promote) b = .ok m := by
  obtain ⟨k, cell, s, d⟩ := m
  obtain ⟨hcell, hsrc, hdst, hpromo⟩ := ha
  simp only at hcell hdst hsrc hpromo hne
  subst hcell hdst hsrc
  obtain ⟨_, hsemi⟩ := (sl_mk b k .pawn s d).mp ⟨hl.1, hl.2.1⟩
  have hnew := new?_wf _ _ _ _ hl.1
  have hval := validateInto_legal b _ hl
  -- what `into_move` does once the kind read off the en-passant square is known
  have run : ∀ k0, rankStep b.r.side s d → (if some d = b.r.epDest then Kind.ep else Kind.simple) = k0 →
      (k0 ≠ .ep && (b.get d).isFree) = false → (promote = none → k = k0) →
      sanIntoMove (.pawnCapture s.file d promote) b = .ok (mkMove b.r.side k .pawn s d) := by
    intro k0 gs hk0 hguard hk
    unfold sanIntoMove
    simp only [rankStep_dst gs, if_false, hk0, hguard, Bool.false_eq_true, (back_iff _ _ _ _).mpr ⟨rfl, gs⟩]
    cases promote with
    | none => dsimp only; rw [← hk rfl, hnew]; exact hval
    | some p => dsimp only; rw [← (show k = promoteKind p from hpromo), hnew]; exact hval
  -- an ordinary capture, promoting or not: `d` holds an enemy man, so it is not the en-passant square
  have ordinary : rankStep b.r.side s d → PawnTo b s d → (promote = none → k = .simple) → _ := fun gs hto hk => by
    have hcol : (b.get d).color = some b.r.side.inv := (hto.resolve_left fun h => hne h.1).2
    refine run .simple gs (if_neg fun h => ?_) (by rw [isFree_of_color _ _ hcol]; rfl) hk
    rw [epDest_free b hv d h, empty_color] at hcol; cases hcol
  cases hsemi with
  | piece hg => cases hg
  | pawn _ _ _ _ gs hto => exact ordinary gs hto fun _ => rfl
  | promo hk hs hd hto =>
    refine ordinary ((pg_promo _ s d hs).mp hd) hto fun e => ?_
    subst e; rw [show k.promote = none from hpromo] at hk; cases hk
  | double hf => exact absurd hf hne
  | ep p hs hd _ hp _ hdp =>
    refine run .ep (rankStep_ep _ s d hs hd) (if_pos ?_) (by simp) fun _ => rfl
    rw [epDest_eq b hv p hp, hdp]

theorem castling_complete (b : Board) (sd : Side) (m : Move) (hl : Legal b m) (ha : Agrees b (.castling sd) m) :
    sanIntoMove (.castling sd) b = .ok m := by
  have ha' : m = Move.fromCastling b.r.side sd := ha
  subst ha'
  exact validateInto_legal b _ hl

/-- two legal moves that `into_move` must both return are equal -/
theorem pawnMove_unique (b : Board) (dst : Sq) (promote : Option Piece) (m m' : Move) (hl : Legal b m)
    (hl' : Legal b m') (ha : Agrees b (.pawnMove dst promote) m) (ha' : Agrees b (.pawnMove dst promote) m') :
    m' = m := by
  have h := pawnMove_complete b dst promote m hl ha
  rw [pawnMove_complete b dst promote m' hl' ha'] at h
  exact Res.ok.inj h

theorem pawnCapture_unique (b : Board) (hv : Valid b) (f : Fin 8) (dst : Sq) (promote : Option Piece) (m m' : Move)
    (hl : Legal b m) (hl' : Legal b m') (ha : Agrees b (.pawnCapture f dst promote) m)
    (ha' : Agrees b (.pawnCapture f dst promote) m') : m' = m := by
  by_cases hf : f = dst.file
  · -- both moves go straight: they agree with the push to `dst`
    refine pawnMove_unique b dst promote m m' hl hl' ⟨ha.1, ha.2.2.1, ?_, ha.2.2.2⟩ ⟨ha'.1, ha'.2.2.1, ?_, ha'.2.2.2⟩
    · rw [ha.2.1, ha.2.2.1, hf]
    · rw [ha'.2.1, ha'.2.2.1, hf]
  · have h := pawnCapture_complete b hv f dst promote m hl ha (by rw [ha.2.1, ha.2.2.1]; exact hf)
    rw [pawnCapture_complete b hv f dst promote m' hl' ha' (by rw [ha'.2.1, ha'.2.2.1]; exact hf)] at h
    exact Res.ok.inj h

theorem san_resolution (b : Board) (hv : Valid b) (d : SanData) (hd : d.ParserShape) :
    (∀ m m', Legal b m → Legal b m' → Agrees b d m → Agrees b d m' → m' = m)
    ∨ Resolves (sanIntoMove d b) fun m => Legal b m ∧ Agrees b d m := by
  cases d with
  | uci u =>
    exact Or.inl fun m m' _ _ ha ha' => Option.some.inj ((show uciIntoMove u b = some m' from ha').symm.trans ha)
  | castling s => exact Or.inl fun m m' _ _ ha ha' => (show m' = _ from ha').trans (show m = _ from ha).symm
  | pawnMove dst promote => exact Or.inl fun m m' hl hl' ha ha' => pawnMove_unique b dst promote m m' hl hl' ha ha'
  | pawnCapture f dst promote =>
    exact Or.inl fun m m' hl hl' ha ha' => pawnCapture_unique b hv f dst promote m m' hl hl' ha ha'
  | pawnCaptureShort src dst promote => exact Or.inr (san_short_resolves b hv src dst promote)
  | simple piece file rank isCapture dst => exact Or.inr (san_simple_resolves b hv piece hd file rank isCapture dst)

/-- C09: whenever `into_move` returns a move, that move is the only legal move of the position agreeing with the text
(for every form of SAN data) -/
theorem san_unique (b : Board) (hv : Valid b) (d : SanData) (mv : Move) (h : sanIntoMove d b = .ok mv)
    (mv' : Move) (hl : Legal b mv') (ha : Agrees b d mv') : mv' = mv := by
  obtain ⟨hlm, hs⟩ := san_sound b hv d mv h
  by_cases hd : d.ParserShape
  · rcases san_resolution b hv d hd with hu | hr
    · exact hu mv mv' hlm hl hs ha
    · exact ((hr.ok_iff mv).mp h).2 mv' ⟨hl, ha⟩
  · cases d with
    | simple piece file rank isCapture dst =>
      have hp : piece = .pawn := Decidable.of_not_not hd
      subst hp
      exact absurd h (simple_pawn_not_ok b file rank isCapture dst mv)
    | _ => exact absurd trivial hd

/-- C09: ambiguity is reported, never resolved silently — if two different legal moves agree with a datum the parser
can produce, `into_move` answers `Ambiguity`, naming two different legal moves that agree with the text. (Only a piece
move, "Nd2", or a pawn capture without rank, "ed", can be ambiguous.) -/
theorem san_ambiguity_reported (b : Board) (hv : Valid b) (d : SanData) (hd : d.ParserShape)
    (m1 m2 : Move) (hne : m1 ≠ m2) (hl1 : Legal b m1) (ha1 : Agrees b d m1) (hl2 : Legal b m2) (ha2 : Agrees b d m2) :
    ∃ x y, sanIntoMove d b = .err (.ambiguity x y) ∧ x ≠ y ∧ (Legal b x ∧ Agrees b d x) ∧ (Legal b y ∧ Agrees b d y) := by
  rcases san_resolution b hv d hd with hu | hr
  · exact absurd (hu m2 m1 hl2 hl1 ha2 ha1) hne
  · exact hr.reported m1 m2 hne ⟨hl1, ha1⟩ ⟨hl2, ha2⟩

theorem detector_fold (mv : Move) (l : List Move) : ∀ d0 : Detector,
    (l.foldl (detectorPush mv) d0).simAny = (d0.simAny || l.any fun m => decide (m ≠ mv))
    ∧ (l.foldl (detectorPush mv) d0).simFile =
        (d0.simFile || l.any fun m => decide (m ≠ mv) && decide (mv.src.file = m.src.file))
    ∧ (l.foldl (detectorPush mv) d0).simRank =
        (d0.simRank || l.any fun m => decide (m ≠ mv) && decide (mv.src.rank = m.src.rank)) := by
  induction l with
  | nil => intro d0; simp
  | cons x xs ih =>
    intro d0
    rw [List.foldl_cons]
    obtain ⟨h1, h2, h3⟩ := ih (detectorPush mv d0 x)
    rw [h1, h2, h3]
    unfold detectorPush
    by_cases hx : x = mv
    · simp [hx]
    · simp [hx, Bool.or_assoc]

/-- the origin hints `from_move` writes, as a function of the detector state -/
def hintFile (mv : Move) (d : Detector) : Option (Fin 8) :=
  if d.simAny && (d.simRank || !d.simFile) then some mv.src.file else none
def hintRank (mv : Move) (d : Detector) : Option (Fin 8) :=
  if d.simAny && d.simFile then some mv.src.rank else none

/-- the chosen hints exclude every other candidate (candidates are determined by their source square) -/
theorem hints_exclude (mv : Move) (l : List Move) (m' : Move) (hm : m' ∈ l) (hne : m' ≠ mv)
    (hsrc : m'.src = mv.src → m' = mv) :
    ¬ ((hintFile mv (l.foldl (detectorPush mv) {})).all (· = m'.src.file) = true
      ∧ (hintRank mv (l.foldl (detectorPush mv) {})).all (· = m'.src.rank) = true) := by
  obtain ⟨h1, h2, h3⟩ := detector_fold mv l {}
  simp only [Bool.false_or] at h1 h2 h3
  have hany : (l.foldl (detectorPush mv) {}).simAny = true := by
    rw [h1, List.any_eq_true]; exact ⟨m', hm, by simpa using hne⟩
  unfold hintFile hintRank
  rw [hany]
  intro ⟨hf, hr⟩
  cases hsf : (l.foldl (detectorPush mv) {}).simFile
  · rw [hsf] at hf
    simp only [Bool.not_false, Bool.or_true, Bool.and_self, if_true, Option.all_some, decide_eq_true_eq] at hf
    have : (l.foldl (detectorPush mv) {}).simFile = true := by
      rw [h2, List.any_eq_true]; exact ⟨m', hm, by simp [hne, hf]⟩
    rw [hsf] at this; cases this
  · rw [hsf] at hr hf
    simp only [Bool.and_self, if_true, Option.all_some, decide_eq_true_eq] at hr
    have hsr : (l.foldl (detectorPush mv) {}).simRank = true := by
      rw [h3, List.any_eq_true]; exact ⟨m', hm, by simp [hne, hr]⟩
    rw [hsr] at hf
    simp only [Bool.not_true, Bool.or_false, Bool.and_self, if_true, Option.all_some, decide_eq_true_eq] at hf
    exact hne (hsrc (C18.sq_ext (congrArg Fin.val hf.symm) (congrArg Fin.val hr.symm)))

/-- what `from_move` writes for a piece move, given the candidate list -/
def pieceData (b : Board) (piece : Piece) (s dst : Sq) (cands : List Move) : SanData :=
  let mv := mkMove b.r.side .simple piece s dst
  let det := cands.foldl (detectorPush mv) {}
  .simple piece (hintFile mv det) (hintRank mv det) (b.get dst).isOcc dst

theorem sanData_piece (b : Board) (piece : Piece) (hp : piece ≠ .pawn) (s dst : Sq) (cands : List Move)
    (hc : sanCandidates? b piece dst = some cands) :
    sanDataFromMove (mkMove b.r.side .simple piece s dst) b = .ok (pieceData b piece s dst cands) := by
  unfold sanDataFromMove pieceData hintFile hintRank
  simp only [mkMove, piece_mk]
  cases piece <;> first | exact absurd rfl hp | (simp only [hc])

theorem hint_self (mv : Move) (d : Detector) :
    (hintFile mv d).all (· = mv.src.file) = true ∧ (hintRank mv d).all (· = mv.src.rank) = true := by
  unfold hintFile hintRank
  constructor <;> split <;> simp

/-- C09 (output, piece moves): the data written for a legal piece move agrees with the move and resolves back to it:
the hints exclude every other candidate -/
theorem piece_roundtrip (b : Board) (hv : Valid b) (piece : Piece) (hp : piece ≠ .pawn) (s dst : Sq)
    (hl : Legal b (mkMove b.r.side .simple piece s dst)) :
    ∃ cands, sanCandidates? b piece dst = some cands ∧
      sanDataFromMove (mkMove b.r.side .simple piece s dst) b = .ok (pieceData b piece s dst cands)
      ∧ Agrees b (pieceData b piece s dst cands) (mkMove b.r.side .simple piece s dst)
      ∧ sanIntoMove (pieceData b piece s dst cands) b = .ok (mkMove b.r.side .simple piece s dst) := by
  obtain ⟨l, hc, hnd, hmem⟩ := sanCandidates_spec b hv piece hp dst
  refine ⟨l, hc, sanData_piece b piece hp s dst l hc, ?_⟩
  unfold pieceData
  generalize hmv : mkMove b.r.side .simple piece s dst = mv at *
  have hshape : mv.kind = .simple ∧ mv.cell = Cell.mk b.r.side piece ∧ mv.dst = dst := by
    subst hmv; exact ⟨rfl, rfl, rfl⟩
  have hag : Agrees b (.simple piece (hintFile mv (l.foldl (detectorPush mv) {}))
      (hintRank mv (l.foldl (detectorPush mv) {})) (b.get dst).isOcc dst) mv := by
    refine ⟨hshape.1, hshape.2.1, hshape.2.2, (hint_self mv _).1, (hint_self mv _).2, ?_⟩
    intro h; rw [isOcc_iff] at h; exact h
  refine ⟨hag, ?_⟩
  apply ((san_simple_resolves b hv piece hp _ _ _ dst).ok_iff mv).mpr
  refine ⟨⟨hl, hag⟩, ?_⟩
  rintro m' ⟨hl', ha'⟩
  obtain ⟨a1, a2, a3, a4, a5, _⟩ := ha'
  have hm' : m' ∈ l := (hmem m').mpr ⟨(simple_shape_iff _ _ _ _).mpr ⟨a1, a2, a3⟩, hl'⟩
  by_cases hne : m' = mv
  · exact hne
  · exfalso
    apply hints_exclude mv l m' hm' hne ?_ ⟨a4, a5⟩
    intro hs
    obtain ⟨s', hs'⟩ := (simple_shape_iff _ _ _ _).mpr ⟨a1, a2, a3⟩
    rw [hs', ← hmv] at hs ⊢
    have : s' = s := hs
    rw [this]

/-- what `from_move` writes for a pawn move -/
def pawnData (mv : Move) : SanData :=
  if mv.src.file = mv.dst.file then .pawnMove mv.dst mv.kind.promote
  else .pawnCapture mv.src.file mv.dst mv.kind.promote

theorem sanData_pawn (b : Board) (c : Color) (k : Kind) (s d : Sq) (h0 : k ≠ .null) (h1 : k ≠ .castleK)
    (h2 : k ≠ .castleQ) (hd : k = .double → s.file = d.file) (he : k = .ep → s.file ≠ d.file) :
    sanDataFromMove (mkMove c k .pawn s d) b = .ok (pawnData (mkMove c k .pawn s d)) := by
  unfold sanDataFromMove pawnData
  simp only [mkMove, piece_mk]
  cases k <;> simp only [Kind.promote] <;> first
    | exact absurd rfl h0 | exact absurd rfl h1 | exact absurd rfl h2
    | (by_cases hf : s.file = d.file <;> simp_all)

theorem pawn_kinds (b : Board) (k : Kind) (s d : Sq) (hl : Legal b (mkMove b.r.side k .pawn s d)) :
    k ≠ .null ∧ k ≠ .castleK ∧ k ≠ .castleQ :=
  ((sl_mk b k .pawn s d).mp ⟨hl.1, hl.2.1⟩).2.kinds.1 rfl

/-- C09 (output, pawn moves): the data written for a legal pawn move agrees with the move and resolves back to it -/
theorem pawn_roundtrip (b : Board) (hv : Valid b) (k : Kind) (s d : Sq)
    (hl : Legal b (mkMove b.r.side k .pawn s d)) :
    sanDataFromMove (mkMove b.r.side k .pawn s d) b = .ok (pawnData (mkMove b.r.side k .pawn s d))
    ∧ Agrees b (pawnData (mkMove b.r.side k .pawn s d)) (mkMove b.r.side k .pawn s d)
    ∧ sanIntoMove (pawnData (mkMove b.r.side k .pawn s d)) b = .ok (mkMove b.r.side k .pawn s d) := by
  obtain ⟨_, hsemi⟩ := (sl_mk b k .pawn s d).mp ⟨hl.1, hl.2.1⟩
  obtain ⟨h0, hK, hQ⟩ := pawn_kinds b k s d hl
  have hpo : PromoOK k.promote k := by
    unfold PromoOK
    cases hp : k.promote with
    | none => rfl
    | some p => exact (promote_kind_of k p hp).symm
  refine ⟨sanData_pawn b _ k s d h0 hK hQ (fun e => ?_) (fun e => ?_), ?_⟩
  · subst e; cases hsemi with | promo hk => cases hk | double hf => exact hf
  · subst e; cases hsemi with | promo hk => cases hk | ep _ _ _ hd => exact file_ne_of_diff hd
  · unfold pawnData
    split
    · rename_i hf
      have ha : Agrees b (.pawnMove d k.promote) (mkMove b.r.side k .pawn s d) := ⟨rfl, rfl, hf, hpo⟩
      exact ⟨ha, pawnMove_complete b d _ _ hl ha⟩
    · rename_i hf
      have ha : Agrees b (.pawnCapture s.file d k.promote) (mkMove b.r.side k .pawn s d) := ⟨rfl, rfl, rfl, hpo⟩
      exact ⟨ha, pawnCapture_complete b hv _ d _ _ hl ha hf⟩

/-- C09 (output, castling) -/
theorem castle_roundtrip (b : Board) (sd : Side) (s d : Sq)
    (hl : Legal b (mkMove b.r.side (castleKind sd) .king s d)) :
    sanDataFromMove (mkMove b.r.side (castleKind sd) .king s d) b = .ok (.castling sd)
    ∧ mkMove b.r.side (castleKind sd) .king s d = Move.fromCastling b.r.side sd
    ∧ sanIntoMove (.castling sd) b = .ok (mkMove b.r.side (castleKind sd) .king s d) := by
  have hsl : SL b (mkMove b.r.side (castleKind sd) .king s d) := ⟨hl.1, hl.2.1⟩
  have heq : mkMove b.r.side (castleKind sd) .king s d = Move.fromCastling b.r.side sd := by
    have h := (sl_castle b sd s d).mp hsl
    obtain ⟨e1, e2, _⟩ := h
    subst e1; subst e2
    cases sd <;> rfl
  exact ⟨by cases sd <;> rfl, heq, castling_complete b sd _ hl heq⟩

/-- a legal move taken apart: the man of the side to move on its source, and the conditions of its kind -/
theorem Legal.semi {b : Board} {mv : Move} (hl : Legal b mv) :
    ∃ p, mv = mkMove b.r.side mv.kind p mv.src mv.dst ∧ b.get mv.src = Cell.mk b.r.side p
      ∧ Semi b mv.kind p mv.src mv.dst := by
  obtain ⟨p, hc, hs, _, _, h⟩ := (sl_iff b mv).mp ⟨hl.1, hl.2.1⟩
  exact ⟨p, mkMove_eta mv _ _ hc, hc ▸ hs, h⟩

theorem legal_cases (b : Board) (mv : Move) (hl : Legal b mv) :
    (∃ k s d, mv = mkMove b.r.side k .pawn s d)
    ∨ (∃ piece s d, piece ≠ .pawn ∧ mv = mkMove b.r.side .simple piece s d)
    ∨ (∃ sd s d, mv = mkMove b.r.side (castleKind sd) .king s d) := by
  obtain ⟨p, hmv, _, h⟩ := Legal.semi hl
  revert hmv h
  generalize mv.kind = k
  intro hmv h
  cases h with
  | piece hg => exact .inr (.inl ⟨p, _, _, (fun e => by subst e; cases hg), hmv⟩)
  | castleK => exact .inr (.inr ⟨.king, _, _, hmv⟩)
  | castleQ => exact .inr (.inr ⟨.queen, _, _, hmv⟩)
  | _ => exact .inl ⟨_, _, _, hmv⟩

/-- C09 (output side, data level): for every legal move of a valid position `from_move` does not panic, the data it
writes agrees with the move, and `into_move` resolves that data back to the same move -/
theorem sanData_roundtrip (b : Board) (hv : Valid b) (mv : Move) (hl : Legal b mv) :
    ∃ d, sanDataFromMove mv b = .ok d ∧ Agrees b d mv ∧ sanIntoMove d b = .ok mv := by
  rcases legal_cases b mv hl with ⟨k, s, d, rfl⟩ | ⟨piece, s, d, hp, rfl⟩ | ⟨sd, s, d, rfl⟩
  · exact ⟨_, pawn_roundtrip b hv k s d hl⟩
  · obtain ⟨_, _, h⟩ := piece_roundtrip b hv piece hp s d hl
    exact ⟨_, h⟩
  · exact ⟨_, castle_roundtrip b sd s d hl⟩

theorem fileOfByte_fileByte (f : Fin 8) : fileOfByte (fileByte f) = some f := by revert f; decide
theorem rankOfByte_rankByte (r : Fin 8) : rankOfByte (rankByte r) = some r := by revert r; decide
theorem isFileByte_fileByte (f : Fin 8) : isFileByte (fileByte f) = true := by revert f; decide
theorem isRankByte_rankByte (r : Fin 8) : isRankByte (rankByte r) = true := by revert r; decide
theorem isFileByte_rankByte (r : Fin 8) : isFileByte (rankByte r) = false := by revert r; decide
theorem fileByte_lt (f : Fin 8) : fileByte f < 128 := by revert f; decide

theorem pieceOfLetter_letter (p : Piece) (hp : p ≠ .pawn) : pieceOfLetter (pieceLetter p) = some p := by
  cases p <;> first | exact absurd rfl hp | rfl

theorem parseUci_err_of (s : Bytes) (h0 : ∀ t, s ≠ 48 :: t)
    (h : ∀ a b c d t, s ≠ fileByte a :: rankByte b :: fileByte c :: rankByte d :: t) : ∃ e, parseUci s = .err e := by
  cases hr : parseUci s with
  | err e => exact ⟨e, rfl⟩
  | trap w => exact absurd hr ((parseUci_post s).no_trap w)
  | ok u =>
    have hs := ((parseUci_post s).of_ok hr).2
    cases u with
    | null => exact absurd hs (h0 _)
    | move src dst p => exact absurd hs (h _ _ _ _ _)

theorem parseSanData_piece (piece : Piece) (hp : piece ≠ .pawn) (rest : Bytes) :
    parseSanData (pieceLetter piece :: rest) = parseSanPiece (pieceLetter piece :: rest) piece rest := by
  have h48 : pieceLetter piece ≠ 48 := by cases piece <;> decide
  have h79 : pieceLetter piece ≠ 79 := by cases piece <;> decide
  have hfile : ∀ a, pieceLetter piece ≠ fileByte a := by
    intro a; cases piece <;> simp [pieceLetter, fileByte] <;> omega
  obtain ⟨e, he⟩ := parseUci_err_of (pieceLetter piece :: rest) (fun _ e => h48 (List.cons.inj e).1)
    (fun a _ _ _ _ e => hfile a (List.cons.inj e).1)
  unfold parseSanData
  simp only [List.cons.injEq, h48, h79, false_and, Bool.or_self, decide_false, Bool.false_eq_true, if_false,
    List.isEmpty_cons, he, pieceOfLetter_letter piece hp]

/-- the hint / capture part of a piece move's text -/
def hintBytes (file rank : Option (Fin 8)) (cap : Bool) : Bytes :=
  (match file with | some f => [fileByte f] | none => [])
    ++ (match rank with | some r => [rankByte r] | none => [])
    ++ (if cap then [120] else [])

theorem hintBytes_length (file rank : Option (Fin 8)) (cap : Bool) : (hintBytes file rank cap).length ≤ 3 := by
  cases file <;> cases rank <;> cases cap <;> simp [hintBytes]

theorem parseSanPiece_fmt (piece : Piece) (file rank : Option (Fin 8)) (cap : Bool) (dst : Sq) :
    parseSanPiece (pieceLetter piece :: (hintBytes file rank cap ++ fmtCoord dst)) piece
      (hintBytes file rank cap ++ fmtCoord dst) = .ok (.simple piece file rank cap dst) := by
  have hc : parseCoord [fileByte dst.file, rankByte dst.rank] = .ok dst := C20.coord_text_roundtrip dst
  have hlt := fileByte_lt dst.file
  have h120f : isFileByte 120 = false := by decide
  have h120r : isRankByte 120 = false := by decide
  cases file <;> cases rank <;> cases cap <;>
    simp [parseSanPiece, hintBytes, fmtCoord, isCharBoundary, hc, isFileByte_fileByte, isRankByte_rankByte,
      isFileByte_rankByte, fileOfByte_fileByte, rankOfByte_rankByte, h120f, h120r] <;> omega
theorem stripPromote_fmt (body : Bytes) (p : Option Piece) (hp : PromoPiece p)
    (hlast : ∀ x, body.getLast? = some x → promoteOfLetter x = none) :
    stripPromote (body ++ fmtPromote p) = (p, body) := by
  unfold stripPromote
  rcases hp with rfl | rfl | rfl | rfl | rfl
  · simp only [fmtPromote, List.append_nil]
    cases hx : body.getLast? with
    | none => rfl
    | some x => simp only [hlast x hx]
  all_goals simp [fmtPromote, pieceLetter, promoteOfLetter, List.getLast?_append]

theorem rankByte_not_promo (r : Fin 8) : promoteOfLetter (rankByte r) = none := by revert r; decide
theorem fileByte_not_promo (f : Fin 8) : promoteOfLetter (fileByte f) = none := by revert f; decide
theorem fileByte_not_piece (f : Fin 8) : pieceOfLetter (fileByte f) = none := by revert f; decide

/-- the reader on a pawn text `body ++ "=X"`: not a castling symbol, not coordinate notation, no piece letter -/
theorem parseSanData_pawn (f : Fin 8) (t : Bytes) (p : Option Piece) (hp : PromoPiece p)
    (hu : ∀ a b c d r, fileByte f :: t ++ fmtPromote p ≠ fileByte a :: rankByte b :: fileByte c :: rankByte d :: r)
    (x : Nat) (ht : t.getLast? = some x) (hx : promoteOfLetter x = none) :
    parseSanData (fileByte f :: t ++ fmtPromote p) = parseSanPawn (fileByte f :: t ++ fmtPromote p) p (fileByte f :: t) := by
  have hlast : ∀ y, (fileByte f :: t).getLast? = some y → promoteOfLetter y = none := by
    intro y hy
    cases t with
    | nil => cases ht
    | cons z t' => rw [List.getLast?_cons_cons, ht] at hy; cases hy; exact hx
  have h48 : fileByte f ≠ 48 := by unfold fileByte; omega
  have h79 : fileByte f ≠ 79 := by unfold fileByte; omega
  obtain ⟨e, he⟩ := parseUci_err_of _ (fun t' e => h48 (List.cons.inj e).1) hu
  have he' : parseUci (fileByte f :: (t ++ fmtPromote p)) = .err e := he
  unfold parseSanData
  rw [stripPromote_fmt _ p hp hlast]
  simp only [List.cons_append, List.cons.injEq, h48, h79, false_and, Bool.or_self, decide_false, Bool.false_eq_true,
    if_false, List.isEmpty_cons, he', fileByte_not_piece]

theorem pawnMove_reparse (dst : Sq) (p : Option Piece) (hp : PromoPiece p) :
    parseSanData (fmtCoord dst ++ fmtPromote p) = .ok (.pawnMove dst p) := by
  have h := parseSanData_pawn dst.file [rankByte dst.rank] p hp ?_ _ rfl (rankByte_not_promo _)
  · have hc : parseCoord [fileByte dst.file, rankByte dst.rank] = .ok dst := C20.coord_text_roundtrip dst
    rw [show fmtCoord dst = [fileByte dst.file, rankByte dst.rank] from rfl, h]
    simp [parseSanPawn, isFileByte_rankByte, isCharBoundary, hc]
  · -- the third byte is `=`, or there is none
    intro a b c d r e
    rcases hp with rfl | rfl | rfl | rfl | rfl <;> simp [fmtPromote, fileByte] at e <;> omega

theorem pawnCapture_reparse (f : Fin 8) (dst : Sq) (p : Option Piece) (hp : PromoPiece p) :
    parseSanData ([fileByte f, 120] ++ fmtCoord dst ++ fmtPromote p) = .ok (.pawnCapture f dst p) := by
  have h := parseSanData_pawn f (120 :: fmtCoord dst) p hp ?_ _ rfl (rankByte_not_promo _)
  · have hc : parseCoord [fileByte dst.file, rankByte dst.rank] = .ok dst := C20.coord_text_roundtrip dst
    have hlt := fileByte_lt dst.file
    rw [show [fileByte f, 120] ++ fmtCoord dst = fileByte f :: 120 :: fmtCoord dst from rfl, h]
    simp [parseSanPawn, fmtCoord, isCharBoundary, hc, isFileByte_fileByte, fileOfByte_fileByte]
    omega
  · -- the second byte is `x`
    intro a b c d r e
    simp [rankByte] at e; omega

theorem pawnCaptureShort_reparse (f g : Fin 8) (p : Option Piece) (hp : PromoPiece p) :
    parseSanData ([fileByte f, fileByte g] ++ fmtPromote p) = .ok (.pawnCaptureShort f g p) := by
  have h := parseSanData_pawn f [fileByte g] p hp ?_ _ rfl (fileByte_not_promo _)
  · rw [show [fileByte f, fileByte g] = fileByte f :: [fileByte g] from rfl, h]
    simp [parseSanPawn, isFileByte_fileByte, fileOfByte_fileByte]
  · -- the second byte is a file letter
    intro a b c d r e
    simp [rankByte, fileByte] at e; omega

/-- the SAN data `from_move` can write (plus the files-only pawn capture) -/
def Printable : SanData → Prop
  | .uci _ => False
  | .castling _ => True
  | .pawnMove _ p => PromoPiece p
  | .pawnCapture _ _ p => PromoPiece p
  | .pawnCaptureShort _ _ p => PromoPiece p
  | .simple piece _ _ _ _ => piece ≠ .pawn

theorem promoPiece_promote (k : Kind) : PromoPiece k.promote := by
  cases k <;> simp [PromoPiece, Kind.promote]

theorem pieceLetter_last (p : Piece) : pieceLetter p ≠ 35 ∧ pieceLetter p ≠ 120 ∧ pieceLetter p ≠ 43 := by
  cases p <;> decide
theorem rankByte_last (r : Fin 8) : rankByte r ≠ 35 ∧ rankByte r ≠ 120 ∧ rankByte r ≠ 43 := by
  revert r; decide

theorem fmtPromote_last (t : Bytes) (r : Fin 8) (p : Option Piece) :
    ∃ x, (t ++ [rankByte r] ++ fmtPromote p).getLast? = some x ∧ x ≠ 35 ∧ x ≠ 120 ∧ x ≠ 43 := by
  cases p with
  | none => exact ⟨rankByte r, by simp [fmtPromote], rankByte_last r⟩
  | some q => exact ⟨pieceLetter q, by simp [fmtPromote], pieceLetter_last q⟩

/-- C09 (text, data part): printable SAN data is written without failure, parses back to the same data, and its text
does not end in a byte the check-mark reader would strip -/
theorem sanData_reparse (d : SanData) (hd : Printable d) :
    ∃ t, fmtSanData d = .ok t ∧ parseSanData t = .ok d
      ∧ ∃ x, t.getLast? = some x ∧ x ≠ 35 ∧ x ≠ 120 ∧ x ≠ 43 := by
  cases d with
  | uci u => exact absurd hd id
  | castling sd => cases sd <;> exact ⟨_, rfl, by decide, _, rfl, by decide⟩
  | pawnMove dst p =>
    refine ⟨_, rfl, pawnMove_reparse dst p hd, ?_⟩
    have := fmtPromote_last [fileByte dst.file] dst.rank p
    simpa [fmtCoord] using this
  | pawnCapture f dst p =>
    refine ⟨_, rfl, pawnCapture_reparse f dst p hd, ?_⟩
    have := fmtPromote_last [fileByte f, 120, fileByte dst.file] dst.rank p
    simpa [fmtCoord] using this
  | pawnCaptureShort f g p =>
    refine ⟨_, rfl, pawnCaptureShort_reparse f g p hd, ?_⟩
    cases p with
    | none => exact ⟨fileByte g, rfl, by clear hd; revert g; decide⟩
    | some q => exact ⟨pieceLetter q, rfl, pieceLetter_last q⟩
  | simple piece file rank cap dst =>
    have hp : piece ≠ .pawn := hd
    have ht : fmtSanData (.simple piece file rank cap dst) =
        .ok (pieceLetter piece :: (hintBytes file rank cap ++ fmtCoord dst)) := by
      unfold fmtSanData hintBytes
      simp only [hp, if_false, List.append_assoc, List.cons_append, List.nil_append]
      cases file <;> cases rank <;> rfl
    refine ⟨_, ht, ?_, rankByte dst.rank, ?_, rankByte_last _⟩
    · rw [parseSanData_piece piece hp, parseSanPiece_fmt]
    · have : pieceLetter piece :: (hintBytes file rank cap ++ fmtCoord dst) =
          (pieceLetter piece :: (hintBytes file rank cap ++ [fileByte dst.file])) ++ [rankByte dst.rank] := by
        simp [fmtCoord]
      rw [this, List.getLast?_concat]

/-- the check-mark suffix `Display` writes -/
def markBytes : Option CheckMark → Bytes
  | some .single => [43] | some .double => [43, 43] | some .checkmate => [35] | none => []

theorem fmtSan_eq (d : SanData) (chk : Option CheckMark) (t : Bytes) (h : fmtSanData d = .ok t) :
    fmtSan ⟨d, chk⟩ = .ok (t ++ markBytes chk) := by
  unfold fmtSan
  simp only [h]
  cases chk with
  | none => rfl
  | some c => cases c <;> rfl

theorem parseSan_mark (body : Bytes) (d : SanData) (x : Nat) (hx : body.getLast? = some x)
    (h35 : x ≠ 35) (h120 : x ≠ 120) (h43 : x ≠ 43) (hp : parseSanData body = .ok d) (chk : Option CheckMark) :
    parseSan (body ++ markBytes chk) = .ok ⟨d, chk⟩ := by
  have hx' : ¬ (body.getLast? = some 43) := by rw [hx]; intro h; injection h with h; exact h43 h
  unfold parseSan
  cases chk with
  | none =>
    simp only [markBytes, List.append_nil, hx, h35, h120, h43, decide_false, Bool.or_self, Bool.false_eq_true,
      if_false, hp]
  | some c =>
    cases c with
    | single =>
      simp only [markBytes, List.getLast?_concat, List.dropLast_concat, hx', if_false]
      simp [hp]
    | double =>
      have e : body ++ [43, 43] = (body ++ [43]) ++ [43] := by simp
      simp only [markBytes, e, List.getLast?_concat, List.dropLast_concat, if_true]
      simp [hp]
    | checkmate =>
      simp only [markBytes, List.getLast?_concat, List.dropLast_concat]
      simp [hp]

/-- C09 (text): a printable SAN move is written without failure and parses back to itself, check mark included -/
theorem san_text_reparse (d : SanData) (hd : Printable d) (chk : Option CheckMark) :
    ∃ t, fmtSan ⟨d, chk⟩ = .ok t ∧ parseSan t = .ok ⟨d, chk⟩ := by
  obtain ⟨t, h1, h2, x, hx, a, b, c⟩ := sanData_reparse d hd
  exact ⟨_, fmtSan_eq d chk t h1, parseSan_mark t d x hx a b c h2 chk⟩

/-- everything `from_move` writes is printable (the null move is written as the UCI null move) -/
theorem sanDataFromMove_printable (mv : Move) (b : Board) (d : SanData) (h : sanDataFromMove mv b = .ok d) :
    mv.kind = .null ∨ Printable d := by
  unfold sanDataFromMove at h
  split at h
  · left; assumption
  · right; cases h; exact promoPiece_promote .double
  · right; cases h; exact promoPiece_promote .double
  · right; cases h; trivial
  · right; cases h; trivial
  · right
    split at h
    · cases h
    · split at h <;> cases h <;> exact promoPiece_promote _
    · rename_i hne _
      split at h
      · cases h
      · cases h
        intro e; subst e
        exact hne rfl

/-- the check mark `from_move` attaches, in rule terms (position after the move) -/
def markOf (p : Spec.Pos) : Option CheckMark :=
  if Spec.inCheck p p.side then (if (Spec.legalMoves p).isEmpty then some .checkmate else some .single) else none

/-- `san::Move::from_move` on a legal move: no failure; the data of `Data::from_move`; `+` iff the opponent is in check
and has a legal move, `#` iff in check without a legal move, nothing otherwise -/
theorem sanFromMove_spec (b : Board) (hv : Valid b) (mv : Move) (hl : Legal b mv) :
    ∃ d, sanDataFromMove mv b = .ok d ∧ Printable d ∧ Agrees b d mv ∧ sanIntoMove d b = .ok mv
      ∧ Valid (makeMove b mv).1
      ∧ sanFromMove mv b = .ok ⟨d, markOf (abs (makeMove b mv).1.r)⟩ := by
  obtain ⟨d, h1, h2, h3⟩ := sanData_roundtrip b hv mv hl
  have hpr : Printable d := by
    rcases sanDataFromMove_printable mv b d h1 with h | h
    · exact absurd h (semilegal_base b mv hl.2.1).1
    · exact h
  have hmk : makeMoveChecked b mv = .ok (makeMove b mv).1 :=
    (C02.make_checked_iff b mv hv hl.1 _).mpr ⟨hl.2.1, hl.2.2, rfl⟩
  have hv' : Valid (makeMove b mv).1 := (C02.make_checked_valid b mv hv hl.1 _ hmk).1
  refine ⟨d, h1, hpr, h2, h3, hv', ?_⟩
  obtain ⟨l, hl1, hl2⟩ := C07.hasLegalMoves_spec _ hv'
  have hemp := C07.legal_empty_iff _ hv' l hl1
  unfold sanFromMove
  simp only [h1, hmk, C07.isCheck_spec _ hv', hl2, hemp]
  unfold markOf
  rw [abs_side]
  cases Spec.inCheck (abs (makeMove b mv).1.r) (makeMove b mv).1.r.side <;>
    cases (Spec.legalMoves (abs (makeMove b mv).1.r)).isEmpty <;> rfl

/-- C09 (output side, full round trip): for every legal move of a valid position the SAN move is produced without
failure, its text is written without failure, the text parses back to the same SAN move (data and check mark), and
resolving the text in the same position returns the same move -/
theorem san_text_roundtrip (b : Board) (hv : Valid b) (mv : Move) (hl : Legal b mv) :
    ∃ sm t, sanFromMove mv b = .ok sm ∧ sanDataFromMove mv b = .ok sm.data ∧ fmtSan sm = .ok t
      ∧ parseSan t = .ok sm ∧ moveFromSan t b = .ok mv := by
  obtain ⟨d, h1, hpr, _, h3, _, h4⟩ := sanFromMove_spec b hv mv hl
  obtain ⟨t, f1, f2⟩ := san_text_reparse d hpr (markOf (abs (makeMove b mv).1.r))
  refine ⟨_, t, h4, h1, f1, f2, ?_⟩
  unfold moveFromSan
  simp only [f2, h3]

/-- C09 (distinct texts): two legal moves of one position that get the same text are the same move -/
theorem san_text_injective (b : Board) (hv : Valid b) (mv1 mv2 : Move) (hl1 : Legal b mv1) (hl2 : Legal b mv2)
    (sm1 sm2 : SanMove) (t : Bytes) (h1 : sanFromMove mv1 b = .ok sm1) (h2 : sanFromMove mv2 b = .ok sm2)
    (f1 : fmtSan sm1 = .ok t) (f2 : fmtSan sm2 = .ok t) : mv1 = mv2 := by
  obtain ⟨sm1', t1, a1, _, a2, _, a3⟩ := san_text_roundtrip b hv mv1 hl1
  obtain ⟨sm2', t2, b1, _, b2, _, b3⟩ := san_text_roundtrip b hv mv2 hl2
  rw [h1] at a1; cases a1
  rw [h2] at b1; cases b1
  rw [f1] at a2; cases a2
  rw [f2] at b2; cases b2
  rw [a3] at b3; cases b3
  rfl

theorem legal_iff_spec (b : Board) (hv : Valid b) (o : Spec.Move) :
    o ∈ Spec.legalMoves (abs b.r) ↔ Legal b (concMove o) := by
  obtain ⟨l, h1, _, h3⟩ := C01.legalGen_eq_rules b hv
  obtain ⟨l', g1, _, g3⟩ := C01.legalGen_spec b hv .all
  rw [h1] at g1; cases g1
  rw [h3, g3]
  constructor
  · intro ⟨a, b', _, c⟩; exact ⟨a, b', c⟩
  · intro ⟨a, b', c⟩; exact ⟨a, b', inClass_all b _ b', c⟩

/-- the other legal moves of the same man to the same destination -/
def specOthers (p : Spec.Pos) (m : Spec.Move) : List Spec.Move :=
  (Spec.legalMoves p).filter fun o => o ≠ m ∧ o.man = m.man ∧ o.dst = m.dst

/-- the origin hint of standard notation: nothing, the file, the rank, or both — the first that tells the move apart
from all the others -/
def specDis (p : Spec.Pos) (m : Spec.Move) : Bytes :=
  if (specOthers p m).isEmpty then []
  else if (specOthers p m).all (fun o => Spec.file o.src ≠ Spec.file m.src) then [97 + Spec.file m.src]
  else if (specOthers p m).all (fun o => Spec.rank o.src ≠ Spec.rank m.src) then [56 - Spec.rank m.src]
  else Spec.sqText m.src

/-- the body (without check mark) of `Spec.San.write` -/
def specBody (p : Spec.Pos) (m : Spec.Move) : Bytes :=
  match m.kind with
  | .castleK => [79, 45, 79]
  | .castleQ => [79, 45, 79, 45, 79]
  | _ =>
    if m.man.piece = .pawn then
      (if Spec.isCapture p m then [97 + Spec.file m.src, 120] else []) ++ Spec.sqText m.dst
        ++ (match m.kind.promote with | some pc => [61, Spec.pieceLetter pc] | none => [])
    else
      [Spec.pieceLetter m.man.piece] ++ specDis p m ++ (if Spec.isCapture p m then [120] else []) ++ Spec.sqText m.dst

theorem mark_eq (p : Spec.Pos) :
    (if Spec.inCheck p p.side = true then (if (Spec.legalMoves p).isEmpty = true then [35] else [43]) else ([] : Bytes))
      = markBytes (markOf p) := by
  unfold markOf markBytes
  cases Spec.inCheck p p.side <;> cases (Spec.legalMoves p).isEmpty <;> rfl

/-- the two themes of SAN text: letters (`fig = false`) and figurines -/
def symOf (fig : Bool) (pc : Piece) : Bytes := if fig then Spec.pieceGlyph pc else [Spec.pieceLetter pc]

def promoOf (fig : Bool) (pr : Option Piece) : Bytes :=
  match pr with
  | some pc => (if fig then [] else [61]) ++ symOf fig pc
  | none => []

/-- the body (without check mark) of `Spec.San.writeWith fig` -/
def bodyOf (fig : Bool) (p : Spec.Pos) (m : Spec.Move) : Bytes :=
  match m.kind with
  | .castleK => [79, 45, 79]
  | .castleQ => [79, 45, 79, 45, 79]
  | _ =>
    if m.man.piece = .pawn then
      (if Spec.isCapture p m then [97 + Spec.file m.src, 120] else []) ++ Spec.sqText m.dst ++ promoOf fig m.kind.promote
    else
      symOf fig m.man.piece ++ specDis p m ++ (if Spec.isCapture p m then [120] else []) ++ Spec.sqText m.dst

theorem writeWith_eq (fig : Bool) (p : Spec.Pos) (m : Spec.Move) :
    Spec.San.writeWith fig p m = bodyOf fig p m ++ markBytes (markOf (Spec.apply p m)) := by
  unfold Spec.San.writeWith
  simp only [mark_eq]
  congr 1

theorem specBody_eq (p : Spec.Pos) (m : Spec.Move) : specBody p m = bodyOf false p m := rfl

theorem isCapture_get (b : Board) (m : Spec.Move) (h1 : m.kind ≠ .ep) (h2 : m.kind ≠ .castleK)
    (h3 : m.kind ≠ .castleQ) (h4 : m.kind ≠ .null) :
    Spec.isCapture (abs b.r) m = (b.get m.dst).isOcc := by
  unfold Spec.isCapture Spec.capturedSq
  rw [← isSome_get_abs]
  cases hk : m.kind <;> first
    | exact absurd hk h1 | exact absurd hk h2 | exact absurd hk h3 | exact absurd hk h4
    | (simp only []; cases ((abs b.r).get m.dst).isSome <;> rfl)

theorem isCapture_ep (b : Board) (m : Spec.Move) (h : m.kind = .ep) :
    Spec.isCapture (abs b.r) m = b.r.ep.isSome := by
  unfold Spec.isCapture Spec.capturedSq
  rw [h]; rfl

theorem PawnTo.file_iff {b : Board} {s d : Sq} (h : PawnTo b s d) : s.file = d.file ↔ b.get d = Cell.empty := by
  rcases h with ⟨e1, e2⟩ | ⟨e1, e2⟩
  · exact ⟨fun _ => e2, fun _ => e1⟩
  · exact ⟨fun h => absurd h (file_ne_of_diff e1), fun h => absurd h (color_ne_empty e2)⟩

theorem pawn_isCapture (b : Board) (k : Kind) (s d : Sq)
    (hl : Legal b (mkMove b.r.side k .pawn s d)) :
    Spec.isCapture (abs b.r) ⟨k, ⟨b.r.side, .pawn⟩, s, d⟩ = !decide (s.file = d.file) := by
  obtain ⟨_, hsemi⟩ := (sl_mk b k .pawn s d).mp ⟨hl.1, hl.2.1⟩
  obtain ⟨h0, hK, hQ⟩ := hsemi.kinds.1 rfl
  -- unless en passant, a capture is a move to an occupied square, and the pawn goes straight iff the square is empty
  have step : k ≠ .ep → (s.file = d.file ↔ b.get d = Cell.empty) →
      Spec.isCapture (abs b.r) ⟨k, ⟨b.r.side, .pawn⟩, s, d⟩ = !decide (s.file = d.file) := by
    intro hne hiff
    rw [isCapture_get b _ hne hK hQ h0]
    show (b.get d).isOcc = _
    by_cases hf : s.file = d.file
    · rw [hiff.mp hf]; simp [hf]; rfl
    · rw [(isOcc_iff _).mpr fun e => hf (hiff.mpr e)]; simp [hf]
  cases hsemi with
  | piece hg => cases hg
  | pawn _ _ _ _ _ hto => exact step (by decide) (PawnTo.file_iff hto)
  | promo hk _ _ hto => exact step (fun e => by subst e; cases hk) (PawnTo.file_iff hto)
  | double hf _ _ _ he => exact step (by decide) ⟨fun _ => he, fun _ => hf⟩
  | ep p _ _ hdiff hp => rw [isCapture_ep b _ rfl, hp]; simp [file_ne_of_diff hdiff]

theorem pieceLetter_eq (p : Piece) : Spec.pieceLetter p = pieceLetter p := by cases p <;> rfl
theorem utf8Piece_eq (p : Piece) : utf8Piece p = Spec.pieceGlyph p := by cases p <;> rfl
theorem sqText_eq (s : Sq) : Spec.sqText s = fmtCoord s := rfl

/-- `san::Data::do_fmt` in either theme -/
def fmtDataOf (fig : Bool) (d : SanData) : Res Unit Bytes := if fig then fmtSanDataUtf8 d else fmtSanData d

theorem fmtDataOf_pawn (fig : Bool) (mv : Move) :
    fmtDataOf fig (pawnData mv) = .ok ((if mv.src.file = mv.dst.file then [] else [fileByte mv.src.file, 120])
      ++ fmtCoord mv.dst ++ promoOf fig mv.kind.promote) := by
  unfold pawnData
  split <;> cases fig <;> cases mv.kind.promote <;>
    simp [fmtDataOf, fmtSanData, fmtSanDataUtf8, fmtPromote, promoOf, symOf, pieceLetter_eq, utf8Piece_eq]

theorem fmtDataOf_piece (fig : Bool) (piece : Piece) (hp : piece ≠ .pawn) (file rank : Option (Fin 8)) (cap : Bool)
    (dst : Sq) :
    fmtDataOf fig (.simple piece file rank cap dst) = .ok (symOf fig piece ++ hintBytes file rank cap ++ fmtCoord dst) := by
  cases fig <;> simp [fmtDataOf, fmtSanData, fmtSanDataUtf8, hp, hintBytes, symOf, pieceLetter_eq, utf8Piece_eq] <;>
    cases file <;> cases rank <;> rfl

/-- C09 (standard notation, pawn moves): destination, `x` with the origin file iff the move captures, the promotion
piece in the theme's spelling iff it promotes -/
theorem pawn_body (fig : Bool) (b : Board) (k : Kind) (s d : Sq) (hl : Legal b (mkMove b.r.side k .pawn s d)) :
    fmtDataOf fig (pawnData (mkMove b.r.side k .pawn s d)) = .ok (bodyOf fig (abs b.r) ⟨k, ⟨b.r.side, .pawn⟩, s, d⟩) := by
  have hcap := pawn_isCapture b k s d hl
  obtain ⟨h0, hK, hQ⟩ := pawn_kinds b k s d hl
  have hbody : bodyOf fig (abs b.r) ⟨k, ⟨b.r.side, .pawn⟩, s, d⟩ =
      (if Spec.isCapture (abs b.r) ⟨k, ⟨b.r.side, .pawn⟩, s, d⟩ then [fileByte s.file, 120] else []) ++ fmtCoord d
        ++ promoOf fig k.promote := by
    unfold bodyOf
    cases k <;> first | exact absurd rfl hK | exact absurd rfl hQ | rfl
  rw [hbody, hcap, fmtDataOf_pawn]
  by_cases hf : s.file = d.file <;> simp [mkMove, hf]

theorem king_e_not_g_or_c (c : Color) (sd : Side) : (kingAttack (kingHomeSq c)).has (kingTo c sd) = false := by
  cases sd
  · exact (king_step_not_castle c).2
  · exact (king_step_not_castle c).1

theorem castle_vs_king (b : Board) (hv : Valid b) (sd : Side) (so s dst : Sq)
    (h1 : SL b (mkMove b.r.side (castleKind sd) .king so dst))
    (h2 : SL b (mkMove b.r.side .simple .king s dst)) : False := by
  obtain ⟨e1, e2, e3, _⟩ := (sl_castle b sd so dst).mp h1
  obtain ⟨g1, g2, _⟩ := (sl_piece b .king (by decide) s dst).mp h2
  have hs : s = so := hv.checks.king_eq e3 g1
  rw [hs, e1, e2] at g2
  simp only [pieceAttack, king_e_not_g_or_c] at g2
  cases g2

theorem other_kind_simple (b : Board) (hv : Valid b) (piece : Piece) (hp : piece ≠ .pawn) (ko : Kind) (so s dst : Sq)
    (h1 : Legal b (mkMove b.r.side ko piece so dst)) (h2 : Legal b (mkMove b.r.side .simple piece s dst)) :
    ko = .simple := by
  rcases legal_cases b _ h1 with ⟨_, _, _, e⟩ | ⟨_, _, _, _, e⟩ | ⟨sd, _, _, e⟩
  · exact absurd (mkMove_inj e).2.1 hp
  · exact (mkMove_inj e).1
  · obtain ⟨rfl, rfl, _, _⟩ := mkMove_inj e
    exact (castle_vs_king b hv sd so s dst ⟨h1.1, h1.2.1⟩ ⟨h2.1, h2.2.1⟩).elim

/-- the "other" moves of the rules (same man, same destination, legal, different) are exactly the other SAN
candidates -/
theorem others_bridge (b : Board) (hv : Valid b) (piece : Piece) (hp : piece ≠ .pawn) (s dst : Sq)
    (hl : Legal b (mkMove b.r.side .simple piece s dst)) (cands : List Move)
    (hc : sanCandidates? b piece dst = some cands) (q : Sq → Bool) :
    (specOthers (abs b.r) ⟨.simple, ⟨b.r.side, piece⟩, s, dst⟩).any (fun o => q o.src)
      = cands.any (fun m' => decide (m' ≠ mkMove b.r.side .simple piece s dst) && q m'.src) := by
  obtain ⟨l, hl', _, hmem⟩ := sanCandidates_spec b hv piece hp dst
  rw [hc] at hl'; cases hl'
  rw [Bool.eq_iff_iff, List.any_eq_true, List.any_eq_true]
  unfold specOthers
  constructor
  · rintro ⟨o, ho, hq⟩
    rw [List.mem_filter, legal_iff_spec b hv] at ho
    obtain ⟨holeg, hpred⟩ := ho
    simp only [decide_eq_true_eq] at hpred
    obtain ⟨hne, hman, hdst⟩ := hpred
    obtain ⟨ko, mano, so, d'⟩ := o
    simp only at hman hdst hq
    subst hman; subst hdst
    have holeg' : Legal b (mkMove b.r.side ko piece so d') := holeg
    have hko := other_kind_simple b hv piece hp ko so s d' holeg' hl
    subst hko
    refine ⟨mkMove b.r.side .simple piece so d', (hmem _).mpr ⟨⟨so, rfl⟩, holeg'⟩, ?_⟩
    rw [Bool.and_eq_true]
    refine ⟨?_, hq⟩
    simp only [decide_eq_true_eq]
    intro e
    apply hne
    have := (mkMove_inj e).2.2.1
    rw [this]
  · rintro ⟨m', hm', hq⟩
    obtain ⟨⟨s', rfl⟩, hleg'⟩ := (hmem m').mp hm'
    rw [Bool.and_eq_true] at hq
    obtain ⟨hne, hq⟩ := hq
    simp only [decide_eq_true_eq] at hne
    refine ⟨⟨.simple, ⟨b.r.side, piece⟩, s', dst⟩, ?_, hq⟩
    rw [List.mem_filter, legal_iff_spec b hv]
    refine ⟨hleg', ?_⟩
    simp only [decide_eq_true_eq, and_true]
    intro e
    apply hne
    injection e with _ _ e3 _
    rw [e3]

/-- C09 (standard notation, disambiguation): the origin hints `from_move` writes are those of the rules — nothing if no
other legal move of the same man goes to the same square, else the file if it differs from all of them, else the rank
if it differs from all of them, else both -/
theorem piece_dis (b : Board) (hv : Valid b) (piece : Piece) (hp : piece ≠ .pawn) (s dst : Sq)
    (hl : Legal b (mkMove b.r.side .simple piece s dst)) (cands : List Move)
    (hc : sanCandidates? b piece dst = some cands) :
    (match hintFile (mkMove b.r.side .simple piece s dst)
        (cands.foldl (detectorPush (mkMove b.r.side .simple piece s dst)) {}) with
      | some f => [fileByte f] | none => [])
    ++ (match hintRank (mkMove b.r.side .simple piece s dst)
        (cands.foldl (detectorPush (mkMove b.r.side .simple piece s dst)) {}) with
      | some r => [rankByte r] | none => [])
    = specDis (abs b.r) ⟨.simple, ⟨b.r.side, piece⟩, s, dst⟩ := by
  have hb := others_bridge b hv piece hp s dst hl cands hc
  obtain ⟨d1, d2, d3⟩ := detector_fold (mkMove b.r.side .simple piece s dst) cands {}
  simp only [Bool.false_or] at d1 d2 d3
  unfold specDis
  dsimp only
  generalize specOthers (abs b.r) ⟨.simple, ⟨b.r.side, piece⟩, s, dst⟩ = O at hb ⊢
  generalize cands.foldl (detectorPush (mkMove b.r.side .simple piece s dst)) {} = D at d1 d2 d3 ⊢
  -- the three tests of the rules on the other moves are the three flags of the detector
  have h1 : O.isEmpty = !D.simAny := by
    rw [show O.isEmpty = !O.any fun _ => true by cases O <;> rfl, hb fun _ => true, d1]
    simp only [Bool.and_true]
  -- the rules compare files and ranks as numbers, the detector as `Fin 8`
  have key : ∀ a b : Fin 8, decide (b.val = a.val) = decide (a = b) := fun a b =>
    decide_eq_decide.mpr ⟨fun h => Fin.ext h.symm, fun h => (congrArg Fin.val h).symm⟩
  have hf : (fun o : Spec.Move => !decide (Spec.file o.src ≠ Spec.file s)) =
      (fun o => decide (s.file = o.src.file)) := by
    funext o
    simp only [ne_eq, decide_not, Bool.not_not]
    exact key s.file o.src.file
  have hr : (fun o : Spec.Move => !decide (Spec.rank o.src ≠ Spec.rank s)) =
      (fun o => decide (s.rank = o.src.rank)) := by
    funext o
    simp only [ne_eq, decide_not, Bool.not_not]
    exact key s.rank o.src.rank
  have h2 : O.all (fun o => decide (Spec.file o.src ≠ Spec.file s)) = !D.simFile := by
    rw [List.all_eq_not_any_not, d2, hf, hb fun x => decide (s.file = x.file)]
    rfl
  have h3 : O.all (fun o => decide (Spec.rank o.src ≠ Spec.rank s)) = !D.simRank := by
    rw [List.all_eq_not_any_not, d3, hr, hb fun x => decide (s.rank = x.rank)]
    rfl
  rw [h1, h2, h3]
  obtain ⟨a, f, r⟩ := D
  cases a <;> cases f <;> cases r <;> rfl

/-- C09 (standard notation, piece moves): piece symbol, origin hint of the rules, `x` iff the destination is occupied,
destination -/
theorem piece_body (fig : Bool) (b : Board) (hv : Valid b) (piece : Piece) (hp : piece ≠ .pawn) (s dst : Sq)
    (hl : Legal b (mkMove b.r.side .simple piece s dst)) (cands : List Move)
    (hc : sanCandidates? b piece dst = some cands) :
    fmtDataOf fig (pieceData b piece s dst cands)
      = .ok (bodyOf fig (abs b.r) ⟨.simple, ⟨b.r.side, piece⟩, s, dst⟩) := by
  have hcap : Spec.isCapture (abs b.r) ⟨.simple, ⟨b.r.side, piece⟩, s, dst⟩ = (b.get dst).isOcc :=
    isCapture_get b _ (by simp) (by simp) (by simp) (by simp)
  have hb : bodyOf fig (abs b.r) ⟨.simple, ⟨b.r.side, piece⟩, s, dst⟩ =
      symOf fig piece ++ specDis (abs b.r) ⟨.simple, ⟨b.r.side, piece⟩, s, dst⟩
        ++ (if (b.get dst).isOcc then [120] else []) ++ fmtCoord dst := by
    unfold bodyOf
    simp only [hp, if_false, hcap]
    rfl
  rw [hb, ← piece_dis b hv piece hp s dst hl cands hc]
  unfold pieceData
  rw [fmtDataOf_piece fig piece hp]
  unfold hintBytes
  simp only [List.append_assoc]

/-- C09 (standard notation, body): the data `from_move` writes for a legal move prints, in either theme, as the rules'
notation of that move (without the check mark) -/
theorem san_body (fig : Bool) (b : Board) (hv : Valid b) (sm : Spec.Move) (hl : Legal b (concMove sm)) (d : SanData)
    (hd : sanDataFromMove (concMove sm) b = .ok d) : fmtDataOf fig d = .ok (bodyOf fig (abs b.r) sm) := by
  have hcol := sl_color b sm hl.2.1
  obtain ⟨k, ⟨c, piece⟩, s, dst⟩ := sm
  simp only at hcol
  subst hcol
  change Legal b (mkMove b.r.side k piece s dst) at hl
  change sanDataFromMove (mkMove b.r.side k piece s dst) b = .ok d at hd
  rcases legal_cases b _ hl with ⟨k', s', d', e⟩ | ⟨piece', s', d', hp, e⟩ | ⟨sd, s', d', e⟩ <;>
    obtain ⟨rfl, rfl, rfl, rfl⟩ := mkMove_inj e
  · rw [(pawn_roundtrip b hv k s dst hl).1] at hd; cases hd
    exact pawn_body fig b k s dst hl
  · obtain ⟨cands, hc, h1, _⟩ := piece_roundtrip b hv piece hp s dst hl
    rw [h1] at hd; cases hd
    exact piece_body fig b hv piece hp s dst hl cands hc
  · rw [(castle_roundtrip b sd s dst hl).1] at hd; cases hd
    cases fig <;> cases sd <;> rfl

theorem abs_after (b : Board) (hv : Valid b) (sm : Spec.Move) (hl : Legal b (concMove sm)) :
    abs (makeMove b (concMove sm)).1.r = Spec.apply (abs b.r) sm := by
  obtain ⟨sm', e1, e2⟩ := Lemmas.make_refines_apply b _ (applyHyp_of_valid b _ hv hl.1 hl.2.1)
  rw [absMove_conc] at e1; cases e1
  exact e2

/-- C09 (standard notation): for every valid position and legal move the SAN text produced is `Spec.San.write` of that
move — piece letter, the minimal file / rank / square disambiguation computed among the legal moves only, `x` for a
capture, `=Q` for a promotion, `O-O` / `O-O-O`, `+` iff the opponent is in check after the move and has a legal move,
`#` iff in check with no legal move -/
theorem san_text_standard (b : Board) (hv : Valid b) (sm : Spec.Move) (hl : Legal b (concMove sm)) :
    ∃ s, sanFromMove (concMove sm) b = .ok s ∧ fmtSan s = .ok (Spec.San.write (abs b.r) sm) := by
  obtain ⟨d, h1, _, _, _, _, h4⟩ := sanFromMove_spec b hv (concMove sm) hl
  refine ⟨_, h4, ?_⟩
  rw [fmtSan_eq d _ _ (san_body false b hv sm hl d h1)]
  show _ = Res.ok (Spec.San.writeWith false _ _)
  rw [writeWith_eq, abs_after b hv sm hl]

theorem san_text_standard_impl (b : Board) (hv : Valid b) (mv : Move) (hl : Legal b mv) :
    ∃ sm s, absMove mv = some sm ∧ concMove sm = mv ∧ sm ∈ Spec.legalMoves (abs b.r)
      ∧ sanFromMove mv b = .ok s ∧ fmtSan s = .ok (Spec.San.write (abs b.r) sm) := by
  obtain ⟨sm, h1, h2, _⟩ := semilegal_abs b hv mv hl.1 hl.2.1
  subst h2
  obtain ⟨s, h3, h4⟩ := san_text_standard b hv sm hl
  exact ⟨sm, s, h1, rfl, (legal_iff_spec b hv sm).mpr hl, h3, h4⟩

/-- C09 (distinct texts, rules level): on a valid position the rules' notation is injective on the legal moves -/
theorem write_injective (b : Board) (hv : Valid b) (m1 m2 : Spec.Move) (h1 : m1 ∈ Spec.legalMoves (abs b.r))
    (h2 : m2 ∈ Spec.legalMoves (abs b.r)) (he : Spec.San.write (abs b.r) m1 = Spec.San.write (abs b.r) m2) :
    m1 = m2 := by
  have l1 := (legal_iff_spec b hv m1).mp h1
  have l2 := (legal_iff_spec b hv m2).mp h2
  obtain ⟨s1, a1, a2⟩ := san_text_standard b hv m1 l1
  obtain ⟨s2, b1, b2⟩ := san_text_standard b hv m2 l2
  rw [he] at a2
  exact concMove_inj _ _ (san_text_injective b hv _ _ l1 l2 s1 s2 _ a1 b1 a2 b2)

/-- the text `Move::to_san` style output: `san::Move::from_move` then `Display` -/
def sanText (mv : Move) (b : Board) : Option Bytes :=
  match sanFromMove mv b with
  | .ok s => (match fmtSan s with | .ok t => some t | _ => none)
  | _ => none

/-- knights on a1 and c1 (`fenTwoKnights`): a1-b3 is written "Nab3" -/
example : (match parseFenBoard fenTwoKnights with
    | .ok b => sanText ⟨.simple, 3, 56, 41⟩ b
    | _ => none) = some [78, 97, 98, 51] := by
  decide +kernel

/-- "rnbqkbnr/pppp1ppp/8/4p3/6P1/5P2/PPPPP2P/RNBQKBNR b KQkq - 0 2" -/
def fenFoolsMate : Bytes :=
  [114, 110, 98, 113, 107, 98, 110, 114, 47, 112, 112, 112, 112, 49, 112, 112, 112, 47, 56, 47, 52, 112, 51, 47, 54,
    80, 49, 47, 53, 80, 50, 47, 80, 80, 80, 80, 80, 50, 80, 47, 82, 78, 66, 81, 75, 66, 78, 82, 32, 98, 32, 75, 81,
    107, 113, 32, 45, 32, 48, 32, 50]

/-- fool's mate: d8-h4 is written "Qh4#" -/
example : (match parseFenBoard fenFoolsMate with
    | .ok b => sanText ⟨.simple, 12, 3, 39⟩ b
    | _ => none) = some [81, 104, 52, 35] := by
  decide +kernel

end Owl.Props.C09
