/-
The rules of `Spec` in a form the kernel evaluates cheaply, for the kernel-checked tests of the specification
(Props/C01_sanity, C07_sanity, C09_sanity). `Spec.apply` builds the board after a move with `Tab.ofFn`, and every read
of such a board makes the kernel build the whole array again. The legality filter and the SAN writer are therefore
restated over a function that gives the content of a square after the move (`applyGet`, in Lemmas/SpecRead), and
proved equal.
-/
import OwlModel.Spec.Text
import OwlModel.Lemmas.SpecRead

namespace Owl.Spec
open Owl

/-- `attacks` through a function that gives the content of a square -/
def attacksG (g : Sq → Option Man) (s t : Sq) : Bool :=
  match g s with
  | none => false
  | some m => match m.piece with
    | .pawn => [((-1 : Int), forward m.color), (1, forward m.color)].any fun d => step s d == some t
    | .knight => knightSteps.any fun d => step s d == some t
    | .king => kingSteps.any fun d => step s d == some t
    | pc => (slide (dirsOf pc) (fun x => (g x).isSome) s).contains t

/-- `inCheck` through a function that gives the content of a square -/
def inCheckG (g : Sq → Option Man) (c : Color) : Bool :=
  ((allSq.filter fun s => g s == some ⟨c, .king⟩).head?).any fun k =>
    !(allSq.filter fun s => (g s).any (·.color == c.inv) && attacksG g s k).isEmpty

theorem attacks_eq (p : Pos) : attacks p = attacksG p.get := rfl

theorem inCheck_eq (p : Pos) (c : Color) : inCheck p c = inCheckG p.get c := rfl

theorem inCheck_apply (p : Pos) (m : Move) (c : Color) : inCheck (apply p m) c = inCheckG (applyGet p m) c :=
  (inCheck_eq _ _).trans (congrArg (inCheckG · c) (funext (apply_get p m)))

/-- the legal moves, filtered without building the board after each move -/
def legalMovesG (p : Pos) : List Move := (pseudoMoves p).filter fun m => !inCheckG (applyGet p m) p.side

theorem legalMoves_eq (p : Pos) : legalMoves p = legalMovesG p :=
  congrArg (fun f => (pseudoMoves p).filter f) (funext fun m => congrArg (!·) (inCheck_apply p m p.side))

def outcomeG (p : Pos) : Option Outcome :=
  if (legalMovesG p).isEmpty then
    if inCheck p p.side then some (.checkmate p.side.inv) else some .stalemate
  else drawSimple p

theorem outcome_eq : outcome = outcomeG :=
  funext fun p => by unfold outcome outcomeG; rw [legalMoves_eq]

/-- `San.writeWith` with `legalMovesG` for the legal moves and `inCheckG ∘ applyGet` for the check mark -/
def San.writeWithG (fig : Bool) (p : Pos) (m : Move) : Bytes :=
  let sym (pc : Piece) : Bytes := if fig then pieceGlyph pc else [pieceLetter pc]
  let prom : Bytes := match m.kind.promote with
    | some pc => (if fig then [] else [61]) ++ sym pc
    | none => []
  let body : Bytes :=
    match m.kind with
    | .castleK => [79, 45, 79]
    | .castleQ => [79, 45, 79, 45, 79]
    | _ =>
      if m.man.piece = .pawn then
        (if isCapture p m then [97 + file m.src, 120] else []) ++ sqText m.dst ++ prom
      else
        let others := (legalMovesG p).filter fun o => o ≠ m ∧ o.man = m.man ∧ o.dst = m.dst
        let dis : Bytes :=
          if others.isEmpty then []
          else if others.all (fun o => file o.src ≠ file m.src) then [97 + file m.src]
          else if others.all (fun o => rank o.src ≠ rank m.src) then [56 - rank m.src]
          else sqText m.src
        sym m.man.piece ++ dis ++ (if isCapture p m then [120] else []) ++ sqText m.dst
  let mark : Bytes :=
    if inCheckG (applyGet p m) (apply p m).side then (if (legalMovesG (apply p m)).isEmpty then [35] else [43]) else []
  body ++ mark

theorem San.writeWith_eq (fig : Bool) (p : Pos) (m : Move) : San.writeWith fig p m = San.writeWithG fig p m := by
  unfold San.writeWithG San.writeWith
  simp only [legalMoves_eq, inCheck_apply]
  rfl

end Owl.Spec
