import OwlModel.Lemmas.Rays
import OwlModel.Lemmas.BitSet
import OwlModel.Lemmas.SpecRead
import OwlModel.Lemmas.SpecMoves
import OwlModel.Lemmas.SpecEval
namespace Owl.Props.C18
open Owl Owl.Spec Owl.Lemmas

/-!
# C18 at the level of the rules: mirror symmetries of chess

`mirrorV` mirrors a position top-to-bottom and swaps the colours; `mirrorH` mirrors it left-to-right.
Both are instances of one abstract board symmetry `Sym` (a square map, a direction map and a colour map
with the handful of compatibility facts the rules use), so every statement is proved once, generically
(`Sym.mir`, `Sym.man`, `Sym.mirMove`), up to `Sym.rules_mir`, and then instantiated.
-/

/-! ## Involutions

Each of the maps of a symmetry (on squares, colours, men, directions, moves) is its own inverse; what the proofs
use of that is collected here for an arbitrary involution `f`. -/

/-- an involution permutes a duplicate-free list that is closed under it -/
theorem perm_map_invol {α : Type} {f : α → α} (hf : ∀ a, f (f a) = a) {l : List α} (hn : l.Nodup)
    (hc : ∀ a ∈ l, f a ∈ l) : (l.map f).Perm l := by
  apply (List.perm_ext_iff_of_nodup ?_ hn).2
  · intro a
    simp only [List.mem_map]
    exact ⟨fun ⟨b, hb, e⟩ => e ▸ hc b hb, fun ha => ⟨f a, hc a ha, hf a⟩⟩
  · exact List.Pairwise.map f (fun a b h e => h (by have := congrArg f e; rwa [hf, hf] at this)) hn

section Invol
variable {α : Type} {f : α → α} (hf : ∀ a, f (f a) = a)
include hf

theorem invol_eq_iff {a b : α} : f a = b ↔ a = f b :=
  ⟨fun h => by rw [← h, hf], fun h => by rw [h, hf]⟩

theorem invol_inj {a b : α} : f a = f b ↔ a = b := by
  rw [invol_eq_iff hf, hf]

theorem beq_invol [DecidableEq α] (a b : α) : (f a == f b) = (a == b) := by
  rw [Bool.eq_iff_iff, beq_iff_eq, beq_iff_eq]; exact invol_inj hf

theorem map_invol_eq_some {o : Option α} {x : α} : o.map f = some x ↔ o = some (f x) := by
  cases o with
  | none => simp
  | some a => simp only [Option.map_some, Option.some.injEq]; exact invol_eq_iff hf

theorem map_map_invol (o : Option α) : (o.map f).map f = o := by
  cases o with
  | none => rfl
  | some a => simp only [Option.map_some, hf]

theorem mem_map_invol {l : List α} {x : α} : x ∈ l.map f ↔ f x ∈ l := by
  rw [List.mem_map]
  constructor
  · rintro ⟨a, ha, rfl⟩; rwa [hf]
  · intro h; exact ⟨_, h, hf x⟩

/-- two lists that `f` maps into each other: `f a` is in one iff `a` is in the other -/
theorem mem_invol_iff {l l' : List α} (h : ∀ a, a ∈ l → f a ∈ l') (h' : ∀ a, a ∈ l' → f a ∈ l) {a : α} :
    f a ∈ l' ↔ a ∈ l :=
  ⟨fun ha => by have := h' _ ha; rwa [hf] at this, h a⟩

/-- an existential may be re-indexed along an involution -/
theorem exists_invol {P P' : α → Prop} (h : ∀ a, P' (f a) ↔ P a) : (∃ a, P' a) ↔ ∃ a, P a :=
  ⟨fun ⟨a, ha⟩ => ⟨f a, (h _).1 (by rwa [hf])⟩, fun ⟨a, ha⟩ => ⟨f a, (h a).2 ha⟩⟩

end Invol

/-- A symmetry of the board geometry together with a colour map. `castleOK` says that the symmetry
respects the castling squares (true for the vertical mirror, false for the horizontal one). -/
structure Sym where
  sq : Sq → Sq
  dir : Int × Int → Int × Int
  col : Color → Color
  dirf : Int → Int
  castleOK : Prop
  sq_sq : ∀ s, sq (sq s) = s
  col_col : ∀ c, col (col c) = c
  col_inv : ∀ c, col c.inv = (col c).inv
  dir_dir : ∀ d, dir (dir d) = d
  step_sq : ∀ s d, step (sq s) (dir d) = (step s d).map sq
  knight : ∀ d, d ∈ knightSteps → dir d ∈ knightSteps
  king : ∀ d, d ∈ kingSteps → dir d ∈ kingSteps
  rook : ∀ d, d ∈ rookDirs → dir d ∈ rookDirs
  bishop : ∀ d, d ∈ bishopDirs → dir d ∈ bishopDirs
  pawn_dir : ∀ c df, dir (df, forward c) = (dirf df, forward (col c))
  dirf_zero : dirf 0 = 0
  dirf_dirf : ∀ x, dirf (dirf x) = x
  dirf_mem : ∀ x, x ∈ [(-1 : Int), 1] → dirf x ∈ [(-1 : Int), 1]
  promo : ∀ t c, rank (sq t) = promoRank (col c) ↔ rank t = promoRank c
  start : ∀ t c, rank (sq t) = pawnStartRank (col c) ↔ rank t = pawnStartRank c
  dbl : ∀ t c, rank (sq t) = doubleDstRank (col c) ↔ rank t = doubleDstRank c
  rank_eq : ∀ a b, rank (sq a) = rank (sq b) ↔ rank a = rank b
  edge : ∀ s, (rank (sq s) ≠ 0 ∧ rank (sq s) ≠ 7) ↔ (rank s ≠ 0 ∧ rank s ≠ 7)
  light : ∀ s, squareLight (sq s) = !squareLight s
  castle_sq : castleOK → ∀ f c, sqOf f (homeRank (col c)) = sq (sqOf f (homeRank c))

namespace Sym
variable (S : Sym)

theorem sq_eq_iff (a b : Sq) : S.sq a = b ↔ a = S.sq b := invol_eq_iff S.sq_sq

theorem col_cases : (∀ c, S.col c = c) ∨ (∀ c, S.col c = c.inv) := by
  cases hw : S.col .white <;> cases hb : S.col .black
  · exfalso; have := S.col_col .black; rw [hb, hw] at this; cases this
  · left; intro c; cases c <;> assumption
  · right; intro c; cases c <;> assumption
  · exfalso; have := S.col_col .white; rw [hw, hb] at this; cases this

/-- colour-mapped man -/
def man (m : Man) : Man := ⟨S.col m.color, m.piece⟩

theorem man_man (m : Man) : S.man (S.man m) = m := by
  cases m; simp only [man, S.col_col]

theorem man_eq_iff (a b : Man) : S.man a = b ↔ a = S.man b := invol_eq_iff S.man_man

theorem man_mk (c : Color) (pc : Piece) : S.man ⟨c, pc⟩ = ⟨S.col c, pc⟩ := rfl

/-- the mirrored position -/
def mir (p : Pos) : Pos :=
  { board := Tab.ofFn fun s => (p.get (S.sq s)).map S.man
    side := S.col p.side
    rights := RightsSet.ofFn fun c s => p.rights.has (S.col c) s
    ep := p.ep.map S.sq
    half := p.half
    full := p.full }

/-- the mirrored move -/
def mirMove (m : Move) : Move := ⟨m.kind, S.man m.man, S.sq m.src, S.sq m.dst⟩

theorem get_mir (p : Pos) (s : Sq) : (S.mir p).get s = (p.get (S.sq s)).map S.man := by
  simp only [mir, Pos.get, Tab.get_ofFn]

theorem get_mir' (p : Pos) (s : Sq) : (S.mir p).get (S.sq s) = (p.get s).map S.man := by
  rw [get_mir, S.sq_sq]

theorem occ_mir' (p : Pos) (s : Sq) : (S.mir p).occ (S.sq s) = p.occ s := by
  simp only [Pos.occ, get_mir', Option.isSome_map]

theorem side_mir (p : Pos) : (S.mir p).side = S.col p.side := rfl
theorem ep_mir (p : Pos) : (S.mir p).ep = p.ep.map S.sq := rfl
-- not `rfl`: both sides are `Pos.half _`, so the two positions are compared first, and `Tab.ofFn` unfolds without end
theorem half_mir (p : Pos) : (S.mir p).half = p.half := by simp only [mir]
theorem full_mir (p : Pos) : (S.mir p).full = p.full := by simp only [mir]
theorem has_mir (p : Pos) (c : Color) (sd : Side) :
    (S.mir p).rights.has c sd = p.rights.has (S.col c) sd := by
  simp only [mir, RightsSet.has_ofFn]

theorem ofFn_has (r : RightsSet) : RightsSet.ofFn r.has = r := by cases r; rfl

theorem mir_mir (p : Pos) : S.mir (S.mir p) = p := by
  apply pos_ext_get
  · intro s
    rw [get_mir, get_mir, S.sq_sq, map_map_invol S.man_man]
  · simp only [side_mir, S.col_col]
  · apply rightsSet_ext; intro c sd; rw [has_mir, has_mir, S.col_col]
  · rw [ep_mir, ep_mir, map_map_invol S.sq_sq]
  · simp only [half_mir]
  · simp only [full_mir]

theorem mirMove_mirMove (m : Move) : S.mirMove (S.mirMove m) = m := by
  cases m; simp only [mirMove, S.man_man, S.sq_sq]

theorem mirMove_eq_iff (a b : Move) : S.mirMove a = b ↔ a = S.mirMove b := invol_eq_iff S.mirMove_mirMove

theorem step_sq' (s : Sq) (d : Int × Int) : step (S.sq s) d = (step s (S.dir d)).map S.sq := by
  have := S.step_sq s (S.dir d); rwa [S.dir_dir] at this

theorem step_sq_eq_some (s t : Sq) (d : Int × Int) :
    step (S.sq s) (S.dir d) = some (S.sq t) ↔ step s d = some t := by
  rw [S.step_sq, map_invol_eq_some S.sq_sq, S.sq_sq]

/-- one step to `t` along a direction of a list that the direction map keeps -/
theorem exists_step (L : List (Int × Int)) (hL : ∀ d, d ∈ L → S.dir d ∈ L) (s t : Sq) :
    (∃ d, d ∈ L ∧ step (S.sq s) d = some (S.sq t)) ↔ ∃ d, d ∈ L ∧ step s d = some t :=
  exists_invol S.dir_dir fun _ => and_congr (mem_invol_iff S.dir_dir hL hL) (S.step_sq_eq_some s t _)

theorem ray_sq (d : Int × Int) (n : Nat) (s : Sq) :
    ray (S.dir d) n (S.sq s) = (ray d n s).map S.sq := by
  induction n generalizing s with
  | zero => rfl
  | succ n ih =>
    simp only [ray, S.step_sq]
    cases step s d with
    | none => rfl
    | some t => simp only [Option.map_some, List.map_cons, ih]

theorem reach_sq (p : Pos) (l : List Sq) :
    reach (S.mir p).occ (l.map S.sq) = (reach p.occ l).map S.sq := by
  induction l with
  | nil => rfl
  | cons t rest ih =>
    simp only [List.map_cons, reach, occ_mir']
    split
    · rfl
    · simp only [List.map_cons, ih]

/-- closure of a direction set under the direction map -/
def Closed (dirs : List (Int × Int)) : Prop := ∀ d, d ∈ dirs → S.dir d ∈ dirs

theorem mem_slide (dirs : List (Int × Int)) (hd : S.Closed dirs) (p : Pos) (s t : Sq) :
    t ∈ slide dirs (S.mir p).occ (S.sq s) ↔ S.sq t ∈ slide dirs p.occ s := by
  simp only [slide, List.mem_flatMap]
  refine exists_invol S.dir_dir fun d => and_congr (mem_invol_iff S.dir_dir hd hd) ?_
  rw [ray_sq, reach_sq, mem_map_invol S.sq_sq]

theorem closed_dirsOf (pc : Piece) : S.Closed (dirsOf pc) := by
  intro d hd
  cases pc <;> simp only [dirsOf, List.mem_append, List.not_mem_nil] at hd ⊢
  · exact S.bishop d hd
  · exact S.rook d hd
  · rcases hd with h | h
    · exact Or.inl (S.bishop d h)
    · exact Or.inr (S.rook d h)

/-- a pawn's step, by its file offset -/
theorem pawnStep_mir (c : Color) (df : Int) (s t : Sq) :
    step (S.sq s) (S.dirf df, forward (S.col c)) = some (S.sq t) ↔ step s (df, forward c) = some t := by
  rw [← S.pawn_dir, S.step_sq_eq_some]

theorem step0_iff (e t : Sq) (c : Color) :
    step (S.sq e) (0, forward (S.col c)) = some (S.sq t) ↔ step e (0, forward c) = some t := by
  have := S.pawnStep_mir c 0 e t; rwa [S.dirf_zero] at this

/-- the two capture steps change places at most -/
theorem capStep_mir (c : Color) (s d : Sq) :
    (step (S.sq s) (-1, forward (S.col c)) = some (S.sq d) ∨ step (S.sq s) (1, forward (S.col c)) = some (S.sq d))
      ↔ (step s (-1, forward c) = some d ∨ step s (1, forward c) = some d) := by
  have := exists_invol S.dirf_dirf
    (P' := fun df => df ∈ [(-1 : Int), 1] ∧ step (S.sq s) (df, forward (S.col c)) = some (S.sq d)) fun df =>
    and_congr (mem_invol_iff S.dirf_dirf S.dirf_mem S.dirf_mem) (S.pawnStep_mir c df s d)
  simpa only [List.mem_cons, List.not_mem_nil, or_false, or_and_right, exists_or, exists_eq_left] using this

theorem attacks_mir (p : Pos) (s t : Sq) :
    attacks (S.mir p) (S.sq s) (S.sq t) = attacks p s t := by
  have hstep : ∀ L : List (Int × Int), (∀ d, d ∈ L → S.dir d ∈ L) →
      (L.any fun d => step (S.sq s) d == some (S.sq t)) = (L.any fun d => step s d == some t) := by
    intro L hL
    rw [Bool.eq_iff_iff]
    simp only [List.any_eq_true, beq_iff_eq]
    exact S.exists_step L hL s t
  unfold attacks
  rw [get_mir']
  cases p.get s with
  | none => rfl
  | some m =>
    obtain ⟨c, pc⟩ := m
    simp only [Option.map_some, man]
    cases pc <;> simp only
    · rw [Bool.eq_iff_iff]
      simpa only [List.any_cons, List.any_nil, Bool.or_false, Bool.or_eq_true, beq_iff_eq] using S.capStep_mir c s t
    · exact hstep _ S.king
    · exact hstep _ S.knight
    all_goals
      rw [Bool.eq_iff_iff, List.contains_iff_mem, List.contains_iff_mem,
        S.mem_slide _ (S.closed_dirsOf _) p s (S.sq t), S.sq_sq]

theorem any_color_mir (p : Pos) (s : Sq) (c : Color) :
    ((S.mir p).get (S.sq s)).any (·.color == S.col c) = (p.get s).any (·.color == c) := by
  rw [get_mir', Option.any_map]
  simp only [man, beq_invol S.col_col]

theorem mem_attackers_mir (p : Pos) (s t : Sq) (c : Color) :
    S.sq s ∈ attackers (S.mir p) (S.sq t) (S.col c) ↔ s ∈ attackers p t c := by
  rw [mem_attackers, mem_attackers, S.any_color_mir, S.attacks_mir]

theorem attackedBy_mir (p : Pos) (t : Sq) (c : Color) :
    attackedBy (S.mir p) (S.sq t) (S.col c) = attackedBy p t c := by
  rw [Bool.eq_iff_iff, attackedBy_iff, attackedBy_iff]
  exact exists_invol S.sq_sq fun s => by rw [S.any_color_mir, S.attacks_mir]

theorem get_mir_eq_some (p : Pos) (s : Sq) (x : Man) :
    (S.mir p).get (S.sq s) = some (S.man x) ↔ p.get s = some x := by
  rw [get_mir', map_invol_eq_some S.man_man, S.man_man]

theorem king_mir (p : Pos) (s : Sq) (c : Color) :
    (S.mir p).get (S.sq s) = some ⟨S.col c, .king⟩ ↔ p.get s = some ⟨c, .king⟩ :=
  S.get_mir_eq_some p s ⟨c, .king⟩

theorem uniqueKing_mir {p : Pos} {c : Color} (hu : UniqueKing p c) : UniqueKing (S.mir p) (S.col c) := by
  intro s t hs ht
  rw [← S.sq_sq s, S.king_mir] at hs
  rw [← S.sq_sq t, S.king_mir] at ht
  exact (invol_inj S.sq_sq).1 (hu _ _ hs ht)

/-- Check commutes with mirroring for a colour with at most one king. `kingSq` is the FIRST king in board
order, which is another king after mirroring when there are several (`inCheck_mirrorV_needs_unique_king`). -/
theorem inCheck_mir {p : Pos} {c : Color} (hu : UniqueKing p c) :
    inCheck (S.mir p) (S.col c) = inCheck p c := by
  rw [Bool.eq_iff_iff, inCheck_iff (S.uniqueKing_mir hu), inCheck_iff hu]
  exact exists_invol S.sq_sq fun k => by rw [S.king_mir, ← S.col_inv, S.attackedBy_mir]

theorem step0 (u : Sq) (c : Color) :
    step (S.sq u) (0, forward (S.col c)) = (step u (0, forward c)).map S.sq := by
  have := S.step_sq u (0, forward c); rwa [S.pawn_dir, S.dirf_zero] at this

theorem kindOK_mir (c : Color) (k : Kind) (t : Sq) : kindOK (S.col c) k (S.sq t) ↔ kindOK c k t := by
  unfold kindOK; rw [S.promo]

theorem specPawn_mir (p : Pos) (c : Color) (s d : Sq) (k : Kind) :
    SpecPawn (S.mir p) (S.col c) (S.sq s) (S.sq d) k ↔ SpecPawn p c s d k := by
  have hnone : ∀ t, ((S.mir p).get (S.sq t)).isNone = (p.get t).isNone := fun t => by
    rw [get_mir', Option.isNone_map]
  unfold SpecPawn CapOK
  refine or_congr ?_ (or_congr (and_congr Iff.rfl ?_) (and_congr (S.capStep_mir c s d)
    (or_congr ?_ (and_congr Iff.rfl (and_congr ?_ ?_)))))
  · rw [S.step0_iff, hnone, S.kindOK_mir]
  · refine exists_invol S.sq_sq fun t => ?_
    rw [S.step0_iff, hnone, S.start, S.step0_iff, hnone]
  · rw [get_mir', Option.any_map, S.kindOK_mir]
    simp only [man, bne, beq_invol S.col_col]
  · rw [hnone]
  · refine exists_invol S.sq_sq fun e => ?_
    rw [ep_mir, map_invol_eq_some S.sq_sq, S.sq_sq, S.step0_iff, S.rank_eq]

theorem mem_pawnMoves_mir (p : Pos) (s : Sq) (c : Color) (m : Move) :
    m ∈ pawnMoves (S.mir p) (S.sq s) (S.col c) ↔ S.mirMove m ∈ pawnMoves p s c := by
  rw [mem_pawnMoves, mem_pawnMoves]
  have := S.specPawn_mir p c s (S.sq m.dst) m.kind
  rw [S.sq_sq] at this
  exact and_congr (invol_eq_iff S.man_man (a := m.man) (b := ⟨c, .pawn⟩)).symm
    (and_congr (invol_eq_iff S.sq_sq).symm this)

theorem mem_targets_mir (pc : Piece) (p : Pos) (s t : Sq) :
    t ∈ targets (S.mir p) pc (S.sq s) ↔ S.sq t ∈ targets p pc s := by
  have hleap : ∀ L : List (Int × Int), S.Closed L →
      (t ∈ L.filterMap (step (S.sq s)) ↔ S.sq t ∈ L.filterMap (step s)) := by
    intro L hL
    simp only [List.mem_filterMap]
    rw [← S.sq_sq t, S.exists_step L hL, S.sq_sq]
  cases pc
  case king => exact hleap _ S.king
  case knight => exact hleap _ S.knight
  all_goals exact S.mem_slide _ (S.closed_dirsOf _) p s t

theorem mem_pieceMoves_mir (p : Pos) (s : Sq) (x : Man) (m : Move) :
    m ∈ pieceMoves (S.mir p) (S.sq s) (S.man x) ↔ S.mirMove m ∈ pieceMoves p s x := by
  by_cases hp : x.piece = .pawn
  · obtain ⟨c, pc⟩ := x
    subst hp
    exact S.mem_pawnMoves_mir p s c m
  · rw [mem_pieceMoves _ _ _ hp, mem_pieceMoves _ _ (S.man x) hp]
    refine and_congr Iff.rfl (and_congr (invol_eq_iff S.man_man).symm (and_congr (invol_eq_iff S.sq_sq).symm
      (and_congr (S.mem_targets_mir x.piece p s m.dst) ?_)))
    rw [get_mir, Option.any_map]
    simp only [man, beq_invol S.col_col, mirMove]

theorem rights_mir_none {p : Pos} (h : p.rights = RightsSet.none) : (S.mir p).rights = RightsSet.none := by
  apply rightsSet_ext; intro c sd; rw [has_mir, h, none_has, none_has]

theorem castleMoves_mir (hc : S.castleOK) (p : Pos) (c : Color) :
    castleMoves (S.mir p) (S.col c) = (castleMoves p c).map S.mirMove := by
  unfold castleMoves
  simp only [S.castle_sq hc, has_mir, S.col_col, get_mir', Option.isNone_map, ← S.col_inv,
    attackedBy_mir]
  rw [List.map_append]
  congr 1 <;> split <;> rfl

/-- the standing assumption about castling: the symmetry respects the castling squares, or there are
no castling rights at all -/
def CastleHyp (p : Pos) : Prop := S.castleOK ∨ p.rights = RightsSet.none

theorem castleHyp_mir {p : Pos} (h : S.CastleHyp p) : S.CastleHyp (S.mir p) := by
  rcases h with h | h
  · exact Or.inl h
  · exact Or.inr (S.rights_mir_none h)

theorem mem_pseudoMoves_mir {p : Pos} (hc : S.CastleHyp p) (m : Move) :
    m ∈ pseudoMoves (S.mir p) ↔ S.mirMove m ∈ pseudoMoves p := by
  rw [mem_pseudoMoves, mem_pseudoMoves]
  apply or_congr
  · have := S.mem_pieceMoves_mir p (S.sq m.src) (S.man m.man) m
    rw [S.sq_sq, S.man_man] at this
    rw [this, get_mir, map_invol_eq_some S.man_man, side_mir]
    exact and_congr Iff.rfl (and_congr (invol_eq_iff S.col_col).symm Iff.rfl)
  · rcases hc with hc | hc
    · rw [side_mir, S.castleMoves_mir hc, mem_map_invol S.mirMove_mirMove]
    · rw [castleMoves_nil hc, castleMoves_nil (S.rights_mir_none hc)]
      simp only [List.not_mem_nil]

end Sym

/-- the same position with another full-move counter -/
def withFull (p : Pos) (n : Nat) : Pos := { p with full := n }

/-- a position is determined by its full-move counter and the other five fields -/
theorem eq_withFull {q r : Pos} (h1 : ∀ s, q.get s = r.get s) (h2 : q.side = r.side)
    (h3 : ∀ c sd, q.rights.has c sd = r.rights.has c sd) (h4 : q.ep = r.ep) (h5 : q.half = r.half) :
    q = withFull r q.full :=
  pos_ext_get h1 h2 (rightsSet_ext _ _ h3) h4 h5 rfl

namespace Sym
variable (S : Sym)

theorem beq_get_mir (p : Pos) (s : Sq) (x : Man) :
    ((S.mir p).get (S.sq s) == some (S.man x)) = (p.get s == some x) := by
  rw [Bool.eq_iff_iff, beq_iff_eq, beq_iff_eq]; exact S.get_mir_eq_some p s x

theorem capturedSq_mir (p : Pos) (m : Move) :
    capturedSq (S.mir p) (S.mirMove m) = (capturedSq p m).map S.sq := by
  unfold capturedSq
  simp only [mirMove, ep_mir, get_mir', Option.isSome_map]
  split
  any_goals rfl
  split <;> rfl

theorem rookHome_mir (hc : S.castleOK) (c : Color) (sd : Side) :
    rookHome (S.col c) sd = S.sq (rookHome c sd) := by
  cases sd <;> exact S.castle_sq hc _ c

theorem kingHome_mir (hc : S.castleOK) (c : Color) : kingHome (S.col c) = S.sq (kingHome c) :=
  S.castle_sq hc _ c

/-- hypothesis for `apply`: the symmetry respects castling, or there are no rights and the move is not castling -/
def ApplyHyp (p : Pos) (m : Move) : Prop :=
  S.castleOK ∨ (p.rights = RightsSet.none ∧ m.kind ≠ .castleK ∧ m.kind ≠ .castleQ)

theorem applyGet_mir {p : Pos} {m : Move} (hc : S.ApplyHyp p m) (t : Sq) :
    applyGet (S.mir p) (S.mirMove m) (S.sq t) = (applyGet p m t).map S.man := by
  have hsq : (m.kind = .castleK ∨ m.kind = .castleQ) → ∀ f : Fin 8,
      S.sq t = sqOf f (homeRank (S.col m.man.color)) ↔ t = sqOf f (homeRank m.man.color) := by
    intro hk f
    rcases hc with hc | ⟨_, h1, h2⟩
    · rw [S.castle_sq hc, invol_inj S.sq_sq]
    · exact absurd hk (not_or.mpr ⟨h1, h2⟩)
  have hep : some (S.sq t) = p.ep.map S.sq ↔ some t = p.ep := by
    rw [eq_comm, map_invol_eq_some S.sq_sq, S.sq_sq, eq_comm]
  unfold applyGet
  simp only [mirMove, man, invol_inj S.sq_sq, get_mir', ep_mir, hep, apply_ite (Option.map S.man), Option.map_some,
    Option.map_none]
  congr 1
  · cases m.kind.promote <;> rfl
  · congr 1
    -- four cases of the kind, not eleven
    split
    · rename_i hk; simp only [hsq (Or.inl hk), apply_ite (Option.map S.man), Option.map_some, Option.map_none]; rfl
    · rename_i hk; simp only [hsq (Or.inr hk), apply_ite (Option.map S.man), Option.map_some, Option.map_none]; rfl
    · simp only [apply_ite (Option.map S.man), Option.map_none]
    · rfl

theorem keepsOf_mir {p : Pos} {m : Move} (hc : S.ApplyHyp p m) (c : Color) (sd : Side) :
    keepsOf (S.mir p) (S.mirMove m) (S.col c) sd = keepsOf p m c sd := by
  rcases hc with hc | ⟨h, _, _⟩
  · unfold keepsOf
    rw [has_mir, S.col_col, S.rookHome_mir hc, ← S.beq_get_mir p m.dst ⟨c, .rook⟩]
    simp only [mirMove, ← S.man_mk, beq_invol S.man_man, beq_invol S.sq_sq]
  · rw [keepsOf_none (S.rights_mir_none h), keepsOf_none h]

/-- Making the mirrored move in the mirrored position gives the mirrored result in every field but the full-move
counter: that one advances after Black's moves, and the colour map may turn Black into White. (For a colour-preserving
symmetry the `withFull` is the identity, see `apply_mirrorH`.) -/
theorem apply_mir {p : Pos} {m : Move} (hc : S.ApplyHyp p m) :
    apply (S.mir p) (S.mirMove m) = withFull (S.mir (apply p m)) (apply (S.mir p) (S.mirMove m)).full := by
  apply eq_withFull
  · intro s
    rw [apply_get, get_mir, apply_get, ← S.applyGet_mir hc, S.sq_sq]
  · rw [side_apply, side_mir, side_apply, S.col_inv]; rfl
  · intro c sd
    rw [has_apply, has_mir, has_apply, ← S.keepsOf_mir hc, S.col_col]
  · rw [ep_apply, ep_mir, ep_apply]
    show (if m.kind = .double then some (S.sq m.dst) else none) = _
    split <;> rfl
  · rw [half_apply, S.half_mir (apply p m), half_apply, capturedSq_mir, Option.isSome_map, half_mir]
    rfl

end Sym

theorem inCheck_withFull (q : Pos) (n : Nat) (c : Color) : inCheck (withFull q n) c = inCheck q c := rfl

namespace Sym
variable (S : Sym)

theorem applyHyp_of_pseudo {p : Pos} (hc : S.CastleHyp p) {m : Move} (h : m ∈ pseudoMoves p) :
    S.ApplyHyp p m := by
  rcases hc with hc | hc
  · exact Or.inl hc
  · exact Or.inr ⟨hc, not_castle_of_no_rights hc h⟩

/-- C18's clause on the legal moves. Hypotheses: the side to move has at most one king (otherwise "the" king of `inCheck`, the first
in board order, is a different one after mirroring), and its castling rights are backed by a king on its home
square (otherwise castling creates a second king). -/
theorem mem_legalMoves_mir {p : Pos} (hc : S.CastleHyp p) (hu : UniqueKing p p.side) (hk : KingHomeOK p)
    (m : Move) : m ∈ legalMoves (S.mir p) ↔ S.mirMove m ∈ legalMoves p := by
  rw [mem_legalMoves, mem_legalMoves, S.mem_pseudoMoves_mir hc]
  apply and_congr_right
  intro hm
  have := S.apply_mir (S.applyHyp_of_pseudo hc hm)
  rw [S.mirMove_mirMove] at this
  rw [this, inCheck_withFull, side_mir, S.inCheck_mir (uniqueKing_apply hu (src_pseudoMoves hk hm))]

theorem legalMoves_isEmpty_mir {p : Pos} (hc : S.CastleHyp p) (hu : UniqueKing p p.side)
    (hk : KingHomeOK p) : (legalMoves (S.mir p)).isEmpty = (legalMoves p).isEmpty := by
  rw [Bool.eq_iff_iff, List.isEmpty_iff, List.isEmpty_iff, List.eq_nil_iff_forall_not_mem,
    List.eq_nil_iff_forall_not_mem]
  constructor
  · intro h m hm
    exact h (S.mirMove m) ((S.mem_legalMoves_mir hc hu hk _).2 (by rwa [S.mirMove_mirMove]))
  · intro h m hm
    exact h (S.mirMove m) ((S.mem_legalMoves_mir hc hu hk _).1 hm)

end Sym

/-- how the colour map acts on outcomes: only the winner of a checkmate changes -/
def mapWinner (f : Color → Color) : Outcome → Outcome
  | .checkmate c => .checkmate (f c)
  | o => o

theorem drawSimple_map (p : Pos) (f : Color → Color) : (drawSimple p).map (mapWinner f) = drawSimple p := by
  simp only [drawSimple, apply_ite (Option.map (mapWinner f)), Option.map_some, Option.map_none, mapWinner]

namespace Sym
variable (S : Sym)

theorem perm_allSq : (allSq.map S.sq).Perm allSq :=
  perm_map_invol S.sq_sq (List.nodup_finRange 64) fun _ _ => List.mem_finRange _

/-- the squares of the mirrored board that pass a test are the mirror images of those that pass the corresponding
test on the original -/
theorem perm_filter (f' g : Sq → Bool) (h : ∀ s, f' (S.sq s) = g s) :
    (allSq.filter f').Perm ((allSq.filter g).map S.sq) := by
  have : g = f' ∘ S.sq := funext fun s => (h s).symm
  rw [this, ← List.filter_map]
  exact (S.perm_allSq.filter f').symm

theorem length_filter_congr (f' g : Sq → Bool) (h : ∀ s, f' (S.sq s) = g s) :
    (allSq.filter f').length = (allSq.filter g).length :=
  (S.perm_filter f' g h).length_eq.trans (List.length_map _)

theorem any_piece_mir (p : Pos) (s : Sq) (f : Piece → Bool) :
    ((S.mir p).get (S.sq s)).any (fun x => f x.piece) = (p.get s).any (fun x => f x.piece) := by
  rw [get_mir', Option.any_map]
  rfl

theorem length_menOf_mir (p : Pos) (c : Color) : (menOf (S.mir p) (S.col c)).length = (menOf p c).length :=
  S.length_filter_congr _ _ fun s => S.any_color_mir p s c

theorem length_kingSqs_mir (p : Pos) (c : Color) :
    (kingSqs (S.mir p) (S.col c)).length = (kingSqs p c).length :=
  S.length_filter_congr _ _ fun s => S.beq_get_mir p s ⟨c, .king⟩

theorem mem_pawnSqs_mir (p : Pos) (s : Sq) : S.sq s ∈ pawnSqs (S.mir p) ↔ s ∈ pawnSqs p := by
  simp only [pawnSqs, allSq, List.mem_filter, List.mem_finRange, true_and, get_mir', Option.any_map, man]

theorem rightKept_mir {p : Pos} (hc : S.CastleHyp p) (c : Color) (sd : Side) :
    rightKept (S.mir p) (S.col c) sd = rightKept p c sd := by
  rcases hc with hc | hc
  · unfold rightKept
    rw [has_mir, S.col_col, S.kingHome_mir hc, S.rookHome_mir hc, ← S.beq_get_mir p (kingHome c) ⟨c, .king⟩,
      ← S.beq_get_mir p (rookHome c sd) ⟨c, .rook⟩]
    rfl
  · rw [rightKept_none (S.rights_mir_none hc), rightKept_none hc]

theorem epKept_mir (p : Pos) : epKept (S.mir p) = (epKept p).map S.sq := by
  unfold epKept
  rw [ep_mir]
  cases p.ep with
  | none => rfl
  | some e =>
    simp only [Option.map_some, side_mir, ← S.col_inv, ← S.man_mk, S.get_mir_eq_some, step0, Option.any_map]
    simp only [get_mir', Option.isNone_map]
    split <;> rfl

theorem normalise_mir {p : Pos} (hc : S.CastleHyp p) : normalise (S.mir p) = S.mir (normalise p) := by
  apply pos_ext_get
  · intro s
    rw [get_normalise, get_mir, get_mir, get_normalise]
  · rfl
  · apply rightsSet_ext
    intro c sd
    rw [has_normalise, has_mir, has_normalise, ← S.rightKept_mir hc, S.col_col]
  · rw [ep_normalise, ep_mir, ep_normalise, epKept_mir]
  · rw [half_normalise, half_mir, half_mir, half_normalise]
  · rw [full_normalise, full_mir, full_mir, full_normalise]

theorem validRaw_mir_of {p : Pos} (hc : S.CastleHyp p) (h : ValidRaw p = true) : ValidRaw (S.mir p) = true := by
  rw [validRaw_iff] at h ⊢
  obtain ⟨h1, h2, h3, h4, h5⟩ := h
  refine ⟨?_, ?_, ?_, ?_, ?_⟩
  · intro e he
    rw [ep_mir, Option.map_eq_some_iff] at he
    obtain ⟨a, ha, rfl⟩ := he
    have := h1 a ha
    rw [side_mir, epRank, ← S.col_inv, S.dbl]; exact this
  · intro c
    have := S.length_menOf_mir p (S.col c)
    rw [S.col_col] at this; rw [this]; exact h2 _
  · intro c
    have := S.length_kingSqs_mir p (S.col c)
    rw [S.col_col] at this; rw [this]; exact h3 _
  · intro s hs
    rw [← S.sq_sq s] at hs ⊢
    rw [S.mem_pawnSqs_mir] at hs
    rw [S.edge]; exact h4 _ hs
  · rw [S.normalise_mir hc, side_mir, ← S.col_inv, S.inCheck_mir]
    · exact h5
    · apply uniqueKing_of_length_le
      rw [kingSqs_normalise, h3]
      exact Nat.le_refl 1

/-- C18's clause that the mirror image of a valid position is valid, as an equation of the two tests -/
theorem validRaw_mir {p : Pos} (hc : S.CastleHyp p) : ValidRaw (S.mir p) = ValidRaw p := by
  rw [Bool.eq_iff_iff]
  constructor
  · intro h
    have := S.validRaw_mir_of (S.castleHyp_mir hc) h
    rwa [S.mir_mir] at this
  · exact S.validRaw_mir_of hc

theorem perm_othersOf (p : Pos) : (othersOf (S.mir p)).Perm ((othersOf p).map S.sq) :=
  S.perm_filter _ _ fun s => S.any_piece_mir p s (· != .king)

/-- the men besides the kings stand on the mirror images of their squares; light and dark squares change places
(`Sym.light`), and the test treats them alike -/
theorem insufficient_mir (p : Pos) : insufficient (S.mir p) = insufficient p := by
  have h := S.perm_othersOf p
  rw [insufficient_eq, insufficient_eq, h.isEmpty_eq, h.length_eq, h.all_eq, h.all_eq, h.all_eq, h.all_eq]
  simp only [List.isEmpty_map, List.length_map, List.all_map, Function.comp_def, S.any_piece_mir p _ (· == .knight),
    S.any_piece_mir p _ (· == .bishop), S.light, Bool.not_not]
  rw [Bool.or_comm ((othersOf p).all fun s => !squareLight s)]

theorem drawSimple_mir (p : Pos) : drawSimple (S.mir p) = drawSimple p := by
  unfold drawSimple
  rw [insufficient_mir, half_mir]

/-- C18's clause on the classification: the same outcome, with the winner's colour mapped -/
theorem outcome_mir {p : Pos} (hc : S.CastleHyp p) (hu : UniqueKing p p.side) (hk : KingHomeOK p) :
    outcome (S.mir p) = (outcome p).map (mapWinner S.col) := by
  unfold outcome
  rw [S.legalMoves_isEmpty_mir hc hu hk, side_mir, S.inCheck_mir hu, drawSimple_mir, ← S.col_inv]
  split
  · split <;> rfl
  · rw [drawSimple_map]

theorem castleHyp_normalise {p : Pos} (h : S.CastleHyp p) : S.CastleHyp (normalise p) :=
  h.imp id rights_normalise_none

/-- C18 for an abstract symmetry: for a valid raw position `p` the mirror image is valid, mirroring commutes with
normalisation, and for the normalised position the legal moves of the mirror image are exactly the mirror images of
the legal moves, check is preserved and the outcome is the same with the winner's colour mapped. -/
theorem rules_mir {p : Pos} (hv : ValidRaw p = true) (hc : S.CastleHyp p) :
    ValidRaw (S.mir p) = true
    ∧ normalise (S.mir p) = S.mir (normalise p)
    ∧ (∀ m, m ∈ legalMoves (S.mir (normalise p)) ↔ S.mirMove m ∈ legalMoves (normalise p))
    ∧ (∀ c, inCheck (S.mir (normalise p)) (S.col c) = inCheck (normalise p) c)
    ∧ (legalMoves (S.mir (normalise p))).isEmpty = (legalMoves (normalise p)).isEmpty
    ∧ insufficient (S.mir (normalise p)) = insufficient (normalise p)
    ∧ outcome (S.mir (normalise p)) = (outcome (normalise p)).map (mapWinner S.col) := by
  have hu : ∀ c, UniqueKing (normalise p) c := fun c => uniqueKing_of_length_le (by
    rw [kingSqs_normalise, length_kingSqs_of_valid hv c]; exact Nat.le_refl 1)
  have hk := kingHomeOK_normalise p
  have hc' := S.castleHyp_normalise hc
  exact ⟨by rw [S.validRaw_mir hc, hv], S.normalise_mir hc, S.mem_legalMoves_mir hc' (hu _) hk,
    fun c => S.inCheck_mir (hu c), S.legalMoves_isEmpty_mir hc' (hu _) hk, S.insufficient_mir _,
    S.outcome_mir hc' (hu _) hk⟩

end Sym

theorem rank_lt (s : Sq) : rank s < 8 := by unfold rank; have := s.isLt; omega
theorem file_lt (s : Sq) : file s < 8 := by unfold file; omega

theorem file_flipRank : ∀ s : Sq, file s.flipRank = file s := by decide
theorem rank_flipRank : ∀ s : Sq, rank s.flipRank = 7 - rank s := by decide
theorem file_flipFile : ∀ s : Sq, file s.flipFile = 7 - file s := by decide
theorem rank_flipFile : ∀ s : Sq, rank s.flipFile = rank s := by decide
theorem flipFile_flipFile (s : Sq) : s.flipFile.flipFile = s := Sq.flipFile_flipFile s

/-- a map of squares and a map of directions, both involutions: if steps are carried to steps, then so are missing
steps to missing steps -/
theorem step_map_of_invol {σ : Sq → Sq} {δ : Int × Int → Int × Int} (hσ : ∀ s, σ (σ s) = s)
    (hδ : ∀ d, δ (δ d) = d)
    (h : ∀ s t d, step s d = some t → step (σ s) (δ d) = some (σ t)) (s : Sq) (d : Int × Int) :
    step (σ s) (δ d) = (step s d).map σ := by
  cases e : step s d with
  | some t => exact h s t d e
  | none =>
    cases e' : step (σ s) (δ d) with
    | none => rfl
    | some u => have := h _ _ _ e'; rw [hσ, hδ, e] at this; cases this

/-- a step commutes with the top-to-bottom mirror when the direction's rank component is negated -/
theorem step_flipRank (s : Sq) (d : Int × Int) :
    step s.flipRank (d.1, -d.2) = (step s d).map Sq.flipRank := by
  refine step_map_of_invol (δ := fun d => (d.1, -d.2)) Sq.flipRank_flipRank (fun d => by simp only [Int.neg_neg])
    ?_ s d
  intro s t d h
  rw [Lemmas.step_eq_some] at h ⊢
  have := file_flipRank s; have := rank_flipRank s; have := file_flipRank t; have := rank_flipRank t
  have := rank_lt s; have := rank_lt t
  simp only at h ⊢; omega

theorem step_flipFile (s : Sq) (d : Int × Int) :
    step s.flipFile (-d.1, d.2) = (step s d).map Sq.flipFile := by
  refine step_map_of_invol (δ := fun d => (-d.1, d.2)) flipFile_flipFile (fun d => by simp only [Int.neg_neg])
    ?_ s d
  intro s t d h
  rw [Lemmas.step_eq_some] at h ⊢
  have := file_flipFile s; have := rank_flipFile s; have := file_flipFile t; have := rank_flipFile t
  have := file_lt s; have := file_lt t
  simp only at h ⊢; omega

/-- top-to-bottom mirror with colour swap -/
def symV : Sym where
  sq := Sq.flipRank
  dir := fun d => (d.1, -d.2)
  col := Color.inv
  dirf := fun x => x
  castleOK := True
  sq_sq := Sq.flipRank_flipRank
  col_col := Color.inv_inv
  col_inv := fun _ => rfl
  dir_dir := fun d => by cases d; simp only [Int.neg_neg]
  step_sq := step_flipRank
  knight := by decide
  king := by decide
  rook := by decide
  bishop := by decide
  pawn_dir := fun c df => by cases c <;> rfl
  dirf_zero := rfl
  dirf_dirf := fun _ => rfl
  dirf_mem := fun _ h => h
  promo := fun t c => by
    rw [rank_flipRank]; have := rank_lt t; cases c <;> simp only [Color.inv, promoRank] <;> omega
  start := fun t c => by
    rw [rank_flipRank]; have := rank_lt t; cases c <;> simp only [Color.inv, pawnStartRank] <;> omega
  dbl := fun t c => by
    rw [rank_flipRank]; have := rank_lt t; cases c <;> simp only [Color.inv, doubleDstRank] <;> omega
  rank_eq := fun a b => by
    rw [rank_flipRank, rank_flipRank]; have := rank_lt a; have := rank_lt b; omega
  edge := fun s => by rw [rank_flipRank]; have := rank_lt s; omega
  light := by decide
  castle_sq := fun _ f c => by cases c <;> revert f <;> decide

/-- left-to-right mirror, colours kept -/
def symH : Sym where
  sq := Sq.flipFile
  dir := fun d => (-d.1, d.2)
  col := fun c => c
  dirf := fun x => -x
  castleOK := False
  sq_sq := flipFile_flipFile
  col_col := fun _ => rfl
  col_inv := fun _ => rfl
  dir_dir := fun d => by cases d; simp only [Int.neg_neg]
  step_sq := step_flipFile
  knight := by decide
  king := by decide
  rook := by decide
  bishop := by decide
  pawn_dir := fun _ _ => rfl
  dirf_zero := rfl
  dirf_dirf := fun x => Int.neg_neg x
  dirf_mem := fun x h => by
    simp only [List.mem_cons, List.not_mem_nil, or_false] at h ⊢
    rcases h with rfl | rfl
    · right; rfl
    · left; rfl
  promo := fun t c => by rw [rank_flipFile]
  start := fun t c => by rw [rank_flipFile]
  dbl := fun t c => by rw [rank_flipFile]
  rank_eq := fun a b => by rw [rank_flipFile, rank_flipFile]
  edge := fun s => by rw [rank_flipFile]
  light := by decide
  castle_sq := fun h => h.elim

/-! C18, the top-to-bottom mirror with the colours swapped. -/
def mirrorSqV (s : Sq) : Sq := s.flipRank
def mirrorManV (m : Man) : Man := ⟨m.color.inv, m.piece⟩

/-- mirror top-to-bottom and swap the colours of the men, the side to move, the castling rights
(White's ↔ Black's, king side stays king side) and the en-passant mark; counters kept -/
def mirrorV (p : Pos) : Pos :=
  { board := Tab.ofFn fun s => (p.get (mirrorSqV s)).map mirrorManV
    side := p.side.inv
    rights := ⟨p.rights.bk, p.rights.bq, p.rights.wk, p.rights.wq⟩
    ep := p.ep.map mirrorSqV
    half := p.half
    full := p.full }
def mirrorMoveV (m : Move) : Move := ⟨m.kind, mirrorManV m.man, mirrorSqV m.src, mirrorSqV m.dst⟩

/-- direction of a step after the top-to-bottom mirror -/
def mirrorDirV (d : Int × Int) : Int × Int := (d.1, -d.2)

def swapWinner : Outcome → Outcome
  | .checkmate c => .checkmate c.inv
  | o => o

theorem mirrorV_eq (p : Pos) : mirrorV p = symV.mir p := rfl
theorem mirrorMoveV_eq (m : Move) : mirrorMoveV m = symV.mirMove m := rfl
theorem swapWinner_eq : swapWinner = mapWinner Color.inv := by
  funext o; cases o <;> rfl

/-- `mirrorSqV` maps rank index `r` to `7 - r` and keeps the file -/
theorem mirrorSqV_file_rank (s : Sq) : file (mirrorSqV s) = file s ∧ rank (mirrorSqV s) = 7 - rank s :=
  ⟨file_flipRank s, rank_flipRank s⟩

theorem mirrorV_mirrorV (p : Pos) : mirrorV (mirrorV p) = p := symV.mir_mir p
theorem mirrorMoveV_mirrorMoveV (m : Move) : mirrorMoveV (mirrorMoveV m) = m := symV.mirMove_mirMove m
theorem mirrorSqV_mirrorSqV (s : Sq) : mirrorSqV (mirrorSqV s) = s := Sq.flipRank_flipRank s

theorem step_mirrorV (s : Sq) (d : Int × Int) :
    step (mirrorSqV s) (d.1, -d.2) = (step s d).map mirrorSqV := step_flipRank s d
theorem ray_mirrorV (d : Int × Int) (n : Nat) (s : Sq) :
    ray (mirrorDirV d) n (mirrorSqV s) = (ray d n s).map mirrorSqV := symV.ray_sq d n s
theorem reach_mirrorV (p : Pos) (l : List Sq) :
    reach (mirrorV p).occ (l.map mirrorSqV) = (reach p.occ l).map mirrorSqV := symV.reach_sq p l

/-- the direction sets of the rules are closed under the flip (as sets; the list order changes) -/
theorem dirs_closed_V :
    (∀ d, d ∈ knightSteps → mirrorDirV d ∈ knightSteps) ∧ (∀ d, d ∈ kingSteps → mirrorDirV d ∈ kingSteps)
    ∧ (∀ d, d ∈ rookDirs → mirrorDirV d ∈ rookDirs) ∧ (∀ d, d ∈ bishopDirs → mirrorDirV d ∈ bishopDirs) :=
  ⟨symV.knight, symV.king, symV.rook, symV.bishop⟩

/-- sliding commutes with the mirror for every direction set closed under the flip -/
theorem mem_slide_mirrorV (dirs : List (Int × Int)) (hd : ∀ d, d ∈ dirs → mirrorDirV d ∈ dirs)
    (p : Pos) (s t : Sq) :
    t ∈ slide dirs (mirrorV p).occ (mirrorSqV s) ↔ mirrorSqV t ∈ slide dirs p.occ s :=
  symV.mem_slide dirs hd p s t
theorem mem_slide_dirsOf_mirrorV (pc : Piece) (p : Pos) (s t : Sq) :
    t ∈ slide (dirsOf pc) (mirrorV p).occ (mirrorSqV s) ↔ mirrorSqV t ∈ slide (dirsOf pc) p.occ s :=
  symV.mem_slide _ (symV.closed_dirsOf pc) p s t

theorem get_mirrorV (p : Pos) (s : Sq) : (mirrorV p).get s = (p.get (mirrorSqV s)).map mirrorManV :=
  symV.get_mir p s
theorem attacks_mirrorV (p : Pos) (s t : Sq) :
    attacks (mirrorV p) (mirrorSqV s) (mirrorSqV t) = attacks p s t := symV.attacks_mir p s t
theorem mem_attackers_mirrorV (p : Pos) (s t : Sq) (c : Color) :
    mirrorSqV s ∈ attackers (mirrorV p) (mirrorSqV t) c.inv ↔ s ∈ attackers p t c :=
  symV.mem_attackers_mir p s t c
theorem attackedBy_mirrorV (p : Pos) (t : Sq) (c : Color) :
    attackedBy (mirrorV p) (mirrorSqV t) c.inv = attackedBy p t c := symV.attackedBy_mir p t c
theorem length_kingSqs_mirrorV (p : Pos) (c : Color) :
    (kingSqs (mirrorV p) c.inv).length = (kingSqs p c).length := symV.length_kingSqs_mir p c

theorem mem_pseudoMoves_mirrorV (p : Pos) (m : Move) :
    m ∈ pseudoMoves (mirrorV p) ↔ mirrorMoveV m ∈ pseudoMoves p :=
  symV.mem_pseudoMoves_mir (Or.inl trivial) m

/-! Making a move commutes in every field but the full-move counter (`apply_mirrorV_counterexample`). -/
/-- all fields except `full` commute -/
theorem apply_mirrorV_fields (p : Pos) (m : Move) :
    (apply (mirrorV p) (mirrorMoveV m)).board = (mirrorV (apply p m)).board
    ∧ (apply (mirrorV p) (mirrorMoveV m)).side = (mirrorV (apply p m)).side
    ∧ (apply (mirrorV p) (mirrorMoveV m)).rights = (mirrorV (apply p m)).rights
    ∧ (apply (mirrorV p) (mirrorMoveV m)).ep = (mirrorV (apply p m)).ep
    ∧ (apply (mirrorV p) (mirrorMoveV m)).half = (mirrorV (apply p m)).half := by
  rw [show apply (mirrorV p) (mirrorMoveV m) = _ from symV.apply_mir (Or.inl trivial)]
  exact ⟨rfl, rfl, rfl, rfl, rfl⟩

/-- `apply` does not commute with the mirror as it stands: the `full` fields differ -/
theorem apply_mirrorV_counterexample :
    ∃ p m, apply (mirrorV p) (mirrorMoveV m) ≠ mirrorV (apply p m) := by
  refine ⟨⟨Tab.ofFn fun _ => none, .white, RightsSet.none, none, 0, 1⟩,
    ⟨.simple, ⟨.white, .king⟩, 60, 52⟩, fun h => ?_⟩
  have := congrArg Pos.full h
  rw [mirrorV_eq, mirrorV_eq, mirrorMoveV_eq, full_apply, Sym.full_mir, Sym.full_mir, full_apply] at this
  revert this
  decide

theorem drawSimple_mirrorV (p : Pos) : drawSimple (mirrorV p) = drawSimple p := symV.drawSimple_mir p

/-- same hypotheses as `Sym.mem_legalMoves_mir` (both hold for normalised valid positions, see `Sym.rules_mir`) -/
theorem outcome_mirrorV {p : Pos} (hu : (kingSqs p p.side).length ≤ 1) (hk : KingHomeOK p) :
    outcome (mirrorV p) = (outcome p).map swapWinner := by
  rw [swapWinner_eq]
  exact symV.outcome_mir (Or.inl trivial) (uniqueKing_of_length_le hu) hk

/-! C18, the left-to-right mirror: for positions without castling rights. -/
def mirrorSqH (s : Sq) : Sq := s.flipFile

/-- mirror left-to-right; colours, side to move, counters kept; the rights are kept as they are
(every theorem below assumes that there are none) -/
def mirrorH (p : Pos) : Pos :=
  { board := Tab.ofFn fun s => p.get (mirrorSqH s)
    side := p.side
    rights := p.rights
    ep := p.ep.map mirrorSqH
    half := p.half
    full := p.full }
def mirrorMoveH (m : Move) : Move := ⟨m.kind, m.man, mirrorSqH m.src, mirrorSqH m.dst⟩
def mirrorDirH (d : Int × Int) : Int × Int := (-d.1, d.2)

theorem get_mirrorH (p : Pos) (s : Sq) : (mirrorH p).get s = p.get (mirrorSqH s) := by
  show Tab.get (Tab.ofFn _) s = _
  rw [Tab.get_ofFn]
theorem symH_man (m : Man) : symH.man m = m := rfl
theorem mirrorH_eq (p : Pos) : mirrorH p = symH.mir p := by
  apply pos_ext_get
  · intro s
    rw [Sym.get_mir, get_mirrorH]
    show p.get (symH.sq s) = _
    cases p.get (symH.sq s) <;> rfl
  · simp only [mirrorH, Sym.side_mir]; rfl
  · apply rightsSet_ext; intro c sd; rw [Sym.has_mir]; simp only [mirrorH]; rfl
  · simp only [mirrorH, Sym.ep_mir]; rfl
  · rw [Sym.half_mir]; simp only [mirrorH]
  · rw [Sym.full_mir]; simp only [mirrorH]
theorem mirrorMoveH_eq (m : Move) : mirrorMoveH m = symH.mirMove m := rfl

theorem mirrorSqH_file_rank (s : Sq) : file (mirrorSqH s) = 7 - file s ∧ rank (mirrorSqH s) = rank s :=
  ⟨file_flipFile s, rank_flipFile s⟩

theorem mirrorH_mirrorH (p : Pos) : mirrorH (mirrorH p) = p := by
  rw [mirrorH_eq, mirrorH_eq]; exact symH.mir_mir p
theorem mirrorMoveH_mirrorMoveH (m : Move) : mirrorMoveH (mirrorMoveH m) = m := symH.mirMove_mirMove m
theorem mirrorSqH_mirrorSqH (s : Sq) : mirrorSqH (mirrorSqH s) = s := flipFile_flipFile s

theorem step_mirrorH (s : Sq) (d : Int × Int) :
    step (mirrorSqH s) (-d.1, d.2) = (step s d).map mirrorSqH := step_flipFile s d
theorem ray_mirrorH (d : Int × Int) (n : Nat) (s : Sq) :
    ray (mirrorDirH d) n (mirrorSqH s) = (ray d n s).map mirrorSqH := symH.ray_sq d n s
theorem reach_mirrorH (p : Pos) (l : List Sq) :
    reach (mirrorH p).occ (l.map mirrorSqH) = (reach p.occ l).map mirrorSqH := by
  rw [mirrorH_eq]; exact symH.reach_sq p l
theorem dirs_closed_H :
    (∀ d, d ∈ knightSteps → mirrorDirH d ∈ knightSteps) ∧ (∀ d, d ∈ kingSteps → mirrorDirH d ∈ kingSteps)
    ∧ (∀ d, d ∈ rookDirs → mirrorDirH d ∈ rookDirs) ∧ (∀ d, d ∈ bishopDirs → mirrorDirH d ∈ bishopDirs) :=
  ⟨symH.knight, symH.king, symH.rook, symH.bishop⟩
theorem mem_slide_mirrorH (dirs : List (Int × Int)) (hd : ∀ d, d ∈ dirs → mirrorDirH d ∈ dirs)
    (p : Pos) (s t : Sq) :
    t ∈ slide dirs (mirrorH p).occ (mirrorSqH s) ↔ mirrorSqH t ∈ slide dirs p.occ s := by
  rw [mirrorH_eq]; exact symH.mem_slide dirs hd p s t
theorem mem_slide_dirsOf_mirrorH (pc : Piece) (p : Pos) (s t : Sq) :
    t ∈ slide (dirsOf pc) (mirrorH p).occ (mirrorSqH s) ↔ mirrorSqH t ∈ slide (dirsOf pc) p.occ s := by
  rw [mirrorH_eq]; exact symH.mem_slide _ (symH.closed_dirsOf pc) p s t

/-! Attacks and check need no hypothesis on the rights. -/
theorem attacks_mirrorH (p : Pos) (s t : Sq) :
    attacks (mirrorH p) (mirrorSqH s) (mirrorSqH t) = attacks p s t := by
  rw [mirrorH_eq]; exact symH.attacks_mir p s t
theorem attackedBy_mirrorH (p : Pos) (t : Sq) (c : Color) :
    attackedBy (mirrorH p) (mirrorSqH t) c = attackedBy p t c := by
  rw [mirrorH_eq]; exact symH.attackedBy_mir p t c
theorem length_kingSqs_mirrorH (p : Pos) (c : Color) :
    (kingSqs (mirrorH p) c).length = (kingSqs p c).length := by
  rw [mirrorH_eq]; exact symH.length_kingSqs_mir p c

theorem mem_pseudoMoves_mirrorH {p : Pos} (hr : p.rights = RightsSet.none) (m : Move) :
    m ∈ pseudoMoves (mirrorH p) ↔ mirrorMoveH m ∈ pseudoMoves p := by
  rw [mirrorH_eq]; exact symH.mem_pseudoMoves_mir (Or.inr hr) m

/-! Here the full-move counter commutes as well. -/
theorem withFull_self {q : Pos} {n : Nat} (h : q.full = n) : withFull q n = q := by
  subst h; rfl

theorem apply_mirrorH {p : Pos} (hr : p.rights = RightsSet.none) {m : Move}
    (hK : m.kind ≠ .castleK) (hQ : m.kind ≠ .castleQ) :
    apply (mirrorH p) (mirrorMoveH m) = mirrorH (apply p m) := by
  rw [mirrorH_eq, mirrorH_eq, mirrorMoveH_eq]
  have := symH.apply_mir (p := p) (m := m) (Or.inr ⟨hr, hK, hQ⟩)
  rw [this]
  apply withFull_self
  rw [Sym.full_mir, full_apply, full_apply, Sym.full_mir]
  rfl

theorem drawSimple_mirrorH (p : Pos) : drawSimple (mirrorH p) = drawSimple p := by
  rw [mirrorH_eq]; exact symH.drawSimple_mir p
theorem mapWinner_id (o : Option Outcome) : o.map (mapWinner fun c => c) = o := by
  cases o with
  | none => rfl
  | some x => cases x <;> rfl

/-! Counterexamples: the extra hypotheses are needed. -/
/-- a position from a list of (square index, man) -/
def mkPos (l : List (Nat × Man)) (side : Color) (r : RightsSet) : Pos :=
  ⟨Tab.ofFn fun s => (l.find? (fun x => x.1 == s.val)).map (·.2), side, r, none, 0, 1⟩

/-- two white kings a8 (attacked by the rook h8) and a1 (not attacked): "in check" is not mirror-invariant -/
def cexTwoKings : Pos :=
  mkPos [(0, ⟨.white, .king⟩), (56, ⟨.white, .king⟩), (7, ⟨.black, .rook⟩), (28, ⟨.black, .king⟩)]
    .white RightsSet.none

/-- For the kernel the first read of each square of a `Tab.ofFn` board builds the array again and is far dearer than the
function under it, so the tests below first replace the reads (`get_mkPos`, `get_mirrorV_fun`) and evaluate after that. -/
theorem get_mkPos (l : List (Nat × Man)) (side : Color) (r : RightsSet) :
    (mkPos l side r).get = fun s => (l.find? (fun x => x.1 == s.val)).map (·.2) :=
  funext fun _ => Tab.get_ofFn _ _

theorem get_mirrorV_fun (p : Pos) : (mirrorV p).get = fun s => (p.get (mirrorSqV s)).map mirrorManV :=
  funext (get_mirrorV p)

theorem inCheck_mirrorV_needs_unique_king :
    inCheck cexTwoKings .white = true ∧ inCheck (mirrorV cexTwoKings) Color.white.inv = false := by
  rw [inCheck_eq, inCheck_eq, get_mirrorV_fun, cexTwoKings, get_mkPos]
  decide +kernel

/-- White has the king-side right but its king stands on e2 (rook h1; Black: Ka8, Rg8). The position
passes `ValidRaw` and has one king each, but it is not normalised: `castleMoves` still generates O-O, which
puts a second white king on g1. -/
def cexKingNotHome : Pos :=
  mkPos [(52, ⟨.white, .king⟩), (63, ⟨.white, .rook⟩), (0, ⟨.black, .king⟩), (6, ⟨.black, .rook⟩)]
    .white ⟨true, false, false, false⟩

theorem mem_legalMoves_mirrorV_needs_kingHome :
    ValidRaw cexKingNotHome = true ∧ (kingSqs cexKingNotHome .white).length = 1
    ∧ mirrorMoveV ⟨.castleK, ⟨.black, .king⟩, 4, 6⟩ ∈ legalMoves cexKingNotHome
    ∧ (⟨.castleK, ⟨.black, .king⟩, 4, 6⟩ : Move) ∉ legalMoves (mirrorV cexKingNotHome) := by
  refine ⟨?_, ?_, ?_, ?_⟩
  · simp only [ValidRaw, menOf, kingSqs, pawnSqs, inCheck_eq, show ∀ p, (normalise p).get = p.get from fun _ => rfl,
      cexKingNotHome, get_mkPos]
    decide +kernel
  · simp only [kingSqs, cexKingNotHome, get_mkPos]
    decide +kernel
  · rw [mem_legalMoves, pseudoMoves_eq, List.mem_append, inCheck_apply]
    refine ⟨Or.inr ?_, ?_⟩
    · simp only [castleMoves, attackedBy, attackers, attacks_eq, cexKingNotHome, get_mkPos]
      decide +kernel
    · show inCheckG (fun s => applyGet _ _ s) _ = false
      simp only [applyGet, cexKingNotHome, get_mkPos]
      decide +kernel
  · rw [mem_legalMoves, inCheck_apply]
    intro h
    refine absurd h.2 ?_
    show ¬ inCheckG (fun s => applyGet _ _ s) _ = false
    simp only [applyGet, get_mirrorV_fun, cexKingNotHome, get_mkPos]
    decide +kernel
end Owl.Props.C18
