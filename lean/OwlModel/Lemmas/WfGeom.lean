/-
C06, last clause: `Move::is_well_formed` and `Move::new` accept exactly the (kind, piece, source, destination) tuples that
the rules call geometrically possible (`Spec.geomPossible`).

A cell is `Cell.empty` or `Cell.mk col pc`. For `Cell.mk col pc` both sides are `kind.matchesPiece pc && core` with source
and destination still variables: `isWellFormed_mk` (Lemmas/SemiView.lean) with the table `wfCore` of the cores `wfgI*` for
the implementation, `geom_mk` with the table `specCore` for the rules. The pawn cores agree by arithmetic on the coordinates (Lemmas/Coords.lean),
king and knight by the leaper tables (`near_check_sq`), the sliders by the between tables (`rook_valid_eq`,
`bishop_valid_eq`), both of C15.
-/
import OwlModel.Lemmas.Attacks
import OwlModel.Lemmas.Coords

namespace Owl.Lemmas
open Owl Owl.Impl

def wfgSPawn (col : Color) (s d : Sq) : Bool :=
  ([(-1 : Int), 0, 1].any fun df => Spec.step s (df, Spec.forward col) == some d)
    && decide (Spec.rank s ≠ 0) && decide (Spec.rank s ≠ 7)
    && decide (Spec.rank d ≠ 0) && decide (Spec.rank d ≠ 7)
def wfgSSimple (col : Color) (pc : Piece) (s d : Sq) : Bool :=
  match pc with
  | .pawn => wfgSPawn col s d
  | .king => Spec.kingSteps.any fun st => Spec.step s st == some d
  | .knight => Spec.knightSteps.any fun st => Spec.step s st == some d
  | pc => Spec.onRay (Spec.dirsOf pc) s d

/-- the rules' side of `wfCore`: what `Spec.geomPossible` asks of each kind beyond `matches_piece` -/
def specCore (k : Kind) (col : Color) (pc : Piece) (s d : Sq) : Bool :=
  match k with
  | .null => false
  | .simple => decide (s ≠ d) && wfgSSimple col pc s d
  | .castleK => decide (s = Spec.kingHome col) && decide (d = Spec.sqOf fileG (Spec.homeRank col))
  | .castleQ => decide (s = Spec.kingHome col) && decide (d = Spec.sqOf fileC (Spec.homeRank col))
  | .double => decide (Spec.file s = Spec.file d) && decide (Spec.rank s = Spec.pawnStartRank col)
      && decide (Spec.rank d = Spec.doubleDstRank col)
  | .ep => decide (Spec.rank s = Spec.doubleDstRank col.inv)
      && ([(-1 : Int), 1].any fun df => Spec.step s (df, Spec.forward col) == some d)
  | _ => decide (Spec.rank d = Spec.promoRank col)
      && ([(-1 : Int), 0, 1].any fun df => Spec.step s (df, Spec.forward col) == some d)

theorem geom_mk (k : Kind) (col : Color) (pc : Piece) (s d : Sq) :
    Spec.geomPossible k (absCell (Cell.mk col pc)) s d = (k.matchesPiece pc && specCore k col pc s d) := by
  rw [absCell_mk]; cases k <;> cases pc <;> rfl

theorem wfg_core_castle (f : Fin 8) (hf : fileE ≠ f) (col : Color) (s d : Sq) :
    (!decide (s = d) && wfgICastle f col s d)
      = (decide (s = Spec.kingHome col) && decide (d = Spec.sqOf f (Spec.homeRank col))) := by
  unfold wfgICastle Spec.kingHome
  rw [sqOf_eq, sqOf_eq]
  by_cases hs : s = Sq.mk fileE (castlingRank col)
  · by_cases hd : d = Sq.mk f (castlingRank col)
    · subst hs hd
      simp [mk_file_ne fileE f _ hf]; rfl
    · simp [hd]
  · simp [hs]; intro h; exact absurd h hs

/-- in each of the three pawn cores below the ranks of source and destination differ, which is why the rules need no
`s ≠ d` of their own there -/
theorem ne_of_rank_ne {s d : Sq} (h : s.rank.val ≠ d.rank.val) : s ≠ d := fun e => h (e ▸ rfl)

theorem wfg_core_double (col : Color) (s d : Sq) :
    (!decide (s = d) && wfgIDouble col s d) = specCore .double col .pawn s d := by
  obtain ⟨⟨w1, w2⟩, b1, b2⟩ := doubleRank_val
  rw [Bool.eq_iff_iff]
  unfold wfgIDouble specCore
  simp only [spec_file, spec_rank, Bool.and_eq_true, Bool.not_eq_true', decide_eq_false_iff_not, decide_eq_true_eq,
    fin8_eq]
  cases col <;> simp only [Spec.pawnStartRank, Spec.doubleDstRank] <;>
    refine ⟨fun h => ?_, fun h => ⟨ne_of_rank_ne ?_, ?_⟩⟩ <;> omega

theorem wfg_pawn (c : Color) (s d : Sq) : wfgIPawn c s d = wfgSPawn c s d := by
  rw [Bool.eq_iff_iff]
  unfold wfgIPawn wfgSPawn
  simp only [Bool.and_eq_true, geo_ahead, spec_rank, decide_eq_true_eq, ne_eq]
  split
  · rename_i h
    simp only [Bool.or_eq_true, decide_eq_true_eq] at h
    simp only [Bool.false_eq_true, false_iff]
    omega
  · rename_i h
    simp only [Bool.or_eq_true, decide_eq_true_eq, not_or] at h
    rw [decide_eq_true_eq]
    cases c <;> simp only [rankStep] <;> omega

theorem wfg_core_ep (c : Color) (s d : Sq) : (!decide (s = d) && wfgIEp c s d) = specCore .ep c .pawn s d := by
  obtain ⟨⟨w1, w2⟩, b1, b2⟩ := epRank_val
  rw [Bool.eq_iff_iff]
  unfold wfgIEp specCore
  simp only [spec_rank, List.any_cons, List.any_nil, Bool.or_false, Bool.or_eq_true, Bool.and_eq_true, beq_iff_eq, geo_cap,
    decide_eq_true_eq, Bool.not_eq_true', decide_eq_false_iff_not, fin8_eq]
  cases c <;> simp only [rankStep, Spec.doubleDstRank, Color.inv] <;>
    refine ⟨fun h => ?_, fun h => ⟨ne_of_rank_ne ?_, ?_⟩⟩ <;> omega

theorem wfg_core_prom (c : Color) (s d : Sq) : (!decide (s = d) && wfgIProm c s d) = specCore .promQ c .pawn s d := by
  obtain ⟨⟨w1, w2⟩, b1, b2⟩ := promoteRank_val
  rw [Bool.eq_iff_iff]
  unfold wfgIProm specCore
  simp only [spec_rank, geo_ahead, Bool.and_eq_true, decide_eq_true_eq, Bool.not_eq_true', decide_eq_false_iff_not, fin8_eq]
  cases c <;> simp only [rankStep, Spec.promoRank] <;>
    refine ⟨fun h => ?_, fun h => ⟨ne_of_rank_ne ?_, ?_⟩⟩ <;> omega

theorem wfg_fact_king (s d : Sq) :
    (!decide (s = d) && (kingAttack s).has d)
      = (decide (s ≠ d) && Spec.kingSteps.any fun st => Spec.step s st == some d) := by
  rw [(near_check_sq s).1, has_stepsOf]; simp
theorem wfg_fact_knight (s d : Sq) :
    (!decide (s = d) && (knightAttack s).has d)
      = (decide (s ≠ d) && Spec.knightSteps.any fun st => Spec.step s st == some d) := by
  rw [(near_check_sq s).2.1, has_stepsOf]; simp

theorem wfg_fact_rook (s d : Sq) : isRookValid s d = Spec.onRay Spec.rookDirs s d := by
  rw [onRay_eq_between]; exact rook_valid_eq s d
theorem wfg_fact_bishop (s d : Sq) : isBishopValid s d = Spec.onRay Spec.bishopDirs s d := by
  rw [onRay_eq_between]; exact bishop_valid_eq s d

theorem wfg_core_simple (col : Color) (pc : Piece) (s d : Sq) :
    (!decide (s = d) && wfgISimple col pc s d) = (decide (s ≠ d) && wfgSSimple col pc s d) := by
  cases pc
  · show (!decide (s = d) && wfgIPawn col s d) = (decide (s ≠ d) && wfgSPawn col s d)
    rw [wfg_pawn, ← decide_not]
  · exact wfg_fact_king s d
  · exact wfg_fact_knight s d
  · show (!decide (s = d) && isBishopValid s d) = (decide (s ≠ d) && Spec.onRay Spec.bishopDirs s d)
    rw [wfg_fact_bishop, ← decide_not]
  · show (!decide (s = d) && isRookValid s d) = (decide (s ≠ d) && Spec.onRay Spec.rookDirs s d)
    rw [wfg_fact_rook, ← decide_not]
  · show (!decide (s = d) && (isBishopValid s d || isRookValid s d))
      = (decide (s ≠ d) && Spec.onRay (Spec.bishopDirs ++ Spec.rookDirs) s d)
    rw [wfg_fact_bishop, wfg_fact_rook, ← decide_not, onRay_append]

/-- C06: `Move::is_well_formed` accepts exactly the geometrically possible tuples. -/
theorem wf_iff_geom (k : Kind) (c : Cell) (s d : Sq) :
    Move.isWellFormed ⟨k, c, s, d⟩ = Spec.geomPossible k (absCell c) s d := by
  rcases cell_cases c with rfl | ⟨col, pc, rfl⟩
  · rw [isWellFormed_empty, show absCell Cell.empty = none by decide]
    cases k <;> simp [Spec.geomPossible]
  · rw [isWellFormed_mk, geom_mk]
    congr 1
    cases k <;> simp only [wfCore]
    · exact Bool.and_false _
    · exact wfg_core_simple col pc s d
    · exact wfg_core_castle fileG (by decide) col s d
    · exact wfg_core_castle fileC (by decide) col s d
    · exact wfg_core_double col s d
    · exact wfg_core_ep col s d
    all_goals exact wfg_core_prom col s d

/-- C06: `Move::new` returns a move exactly for the geometrically possible tuples. -/
theorem new?_iff (k : Kind) (c : Cell) (s d : Sq) :
    (Move.new? k c s d).isSome = Spec.geomPossible k (absCell c) s d := by
  rw [← wf_iff_geom]
  unfold Move.new?
  cases h : Move.isWellFormed ⟨k, c, s, d⟩ <;> simp [h]

end Owl.Lemmas
