/-
C06 (specification side): on a board that passes the validation gate (`Valid b`) the rules' pseudo-legal move set
`Spec.pseudoMoves (abs b.r)` is exactly the set of well-formed, semilegal implementation moves
(`Move::is_well_formed` ∧ `Move::is_semilegal`), and `concMove` / `absMove` give a bijection between the two.

Each part of the rules' move list (pawn moves, moves of the other men, castling) is met, through its membership lemma in
`Lemmas/SpecMoves.lean`, with the description of the well-formed semilegal moves of that kind: the one-square pawn moves
and castling with the squares-first statements of `Lemmas/GenExact.lean` (`pawn_step_sq`, `castle_sq`), the rest with
`Lemmas/SemiChar.lean`. The rules list a pawn's moves by destination, the implementation by kind: `specPawn_step` regroups.
-/
import OwlModel.Lemmas.GenExact
import OwlModel.Lemmas.Valid
import OwlModel.Lemmas.SpecMoves
namespace Owl.Lemmas
open Owl Owl.Impl

/-- the kinds by which a man `p` of the side to move can move -/
theorem sl_kinds {b : Board} {k : Kind} {p : Piece} {s d : Sq}
    (h : SL b (mkMove b.r.side k p s d)) : KindFits k p :=
  ((sl_mk b k p s d).mp h).2.kinds

/-- one square ahead: straight onto an empty square, or aslant onto an enemy man -/
def StepTo (P : Spec.Pos) (c : Color) (s d : Sq) : Prop :=
  (Spec.step s (0, Spec.forward c) = some d ∧ (P.get d).isNone = true)
    ∨ ((Spec.step s (-1, Spec.forward c) = some d ∨ Spec.step s (1, Spec.forward c) = some d)
        ∧ (P.get d).any (fun x => x.color != c) = true)

/-- the rules list a pawn's moves square by square; kind by kind, the plain moves and the promotions are the steps -/
theorem specPawn_step (P : Spec.Pos) (c : Color) (s d : Sq) {k : Kind} (h1 : k ≠ .double) (h2 : k ≠ .ep) :
    SpecPawn P c s d k ↔ (StepTo P c s d ∧ kindOK c k d) := by
  simp only [SpecPawn, CapOK, StepTo, h1, h2, false_and, or_false, false_or, or_and_right, and_assoc]

theorem stepTo_abs (b : Board) (s d : Sq) :
    StepTo (abs b.r) b.r.side s d ↔ (rankStep b.r.side s d ∧ PawnTo b s d) := by
  have hget : ∀ t, (abs b.r).get t = absCell (b.get t) := fun t => get_abs b.r t
  simp only [StepTo, PawnTo, hget, cell_isNone, cell_enemy, geo_push, geo_cap, and_or_left, and_assoc,
    and_left_comm (b := rankStep _ _ _)]

/-- the promotion split of the rules (by the destination) against that of the generators (by the source) -/
theorem kindOK_iff {c : Color} {s d : Sq} (h : rankStep c s d) {pr : Bool} {k : Kind} (hk : promoKind pr k) :
    kindOK c k d ↔ onPromoRank c pr s := by
  unfold kindOK
  rw [promoRank_iff, ← pg_promo_iff c s d h]
  cases pr
  · obtain rfl : k = .simple := hk
    simp [onPromoRank]
  · have := (isPromo_iff k).mp hk
    have : k ≠ .simple := by rintro rfl; cases hk
    simp [onPromoRank, *]

/-- a one-square pawn move, with promotion (`pr`) or without -/
theorem step_bridge (b : Board) (hv : Valid b) {pr : Bool} {k : Kind} (hk : promoKind pr k) (s d : Sq)
    (hs : b.get s = Cell.mk b.r.side .pawn) :
    (StepTo (abs b.r) b.r.side s d ∧ kindOK b.r.side k d) ↔ SL b (mkMove b.r.side k .pawn s d) := by
  rw [pawn_step_sq b hv pr k hk, stepTo_abs]
  exact ⟨fun ⟨⟨r, t⟩, q⟩ => ⟨hs, (kindOK_iff r hk).mp q, r, t⟩, fun ⟨_, q, r, t⟩ => ⟨⟨r, t⟩, (kindOK_iff r hk).mpr q⟩⟩

theorem pawn_bridge (b : Board) (hv : Valid b) (s d : Sq) (k : Kind) (hs : b.get s = Cell.mk b.r.side .pawn) :
    SpecPawn (abs b.r) b.r.side s d k ↔
      ((mkMove b.r.side k .pawn s d).isWellFormed = true ∧ isSemilegal b (mkMove b.r.side k .pawn s d) = true) := by
  have hget : ∀ t, (abs b.r).get t = absCell (b.get t) := fun t => get_abs b.r t
  cases k with
  | null | castleK | castleQ =>
    constructor
    · intro h; unfold SpecPawn CapOK kindOK at h; simp at h
    · intro h; have := (sl_kinds h).1 rfl; simp at this
  | simple => exact (specPawn_step _ _ s d (by decide) (by decide)).trans (step_bridge b hv (pr := false) rfl s d hs)
  | promN | promB | promR | promQ =>
    exact (specPawn_step _ _ s d (by decide) (by decide)).trans (step_bridge b hv (pr := true) (by rfl) s d hs)
  | double =>
    rw [← SL, sl_pawn_double]
    unfold SpecPawn CapOK kindOK
    simp only [hget, cell_isNone, cell_enemy, reduceCtorEq, false_and, and_false, or_false, false_or, hs, true_and]
    have g := geo_double b.r.side s d
    constructor
    · rintro ⟨t, h1, e1, h2, h3, e2⟩
      have ht := step_fwd_addU b.r.side s t h1
      subst ht
      obtain ⟨a, b', c'⟩ := g.mpr ⟨h2, h1, h3⟩
      exact ⟨a, b', c', e1, e2⟩
    · rintro ⟨a, b', c', e1, e2⟩
      obtain ⟨h2, h1, h3⟩ := g.mp ⟨a, b', c'⟩
      exact ⟨_, h1, e1, h2, h3, e2⟩
  | ep =>
    rw [← SL, sl_pawn_ep]
    unfold SpecPawn CapOK kindOK
    simp only [hget, cell_isNone, cell_enemy, reduceCtorEq, false_and, and_false, or_false, false_or, hs, true_and, abs_ep]
    constructor
    · rintro ⟨hst, _, e, hep, h1, h2⟩
      obtain ⟨hr, _, (hbe : b.get (addU e (forwardDelta b.r.side)) = Cell.empty)⟩ := hv.shape.ep e hep
      have hd := step_fwd_addU b.r.side e d h1
      subst hd
      obtain ⟨a1, a2, a3, a4⟩ := (geo_ep b.r.side s e hr).mp ⟨hst, h1, h2⟩
      refine ⟨a1, a2, a3, ?_, e, hep, a4, rfl⟩
      rw [hbe, empty_color]; simp
    · rintro ⟨a1, a2, a3, _, p, hep, a4, hd⟩
      obtain ⟨hr, _, hbe⟩ := hv.shape.ep p hep
      subst hd
      obtain ⟨hst, h1, h2⟩ := (geo_ep b.r.side s p hr).mpr ⟨a1, a2, a3, a4⟩
      exact ⟨hst, hbe, p, hep, h1, h2⟩

theorem targets_has (b : Board) (hb : Consistent b) (p : Piece) (hp : p ≠ .pawn) (s d : Sq) :
    (pieceAttack p s b.all).has d = decide (d ∈ targets (abs b.r) p s) := by
  obtain ⟨hk, hn, _, _⟩ := near_check_sq s
  have hocc : (fun x => b.all.has x) = (abs b.r).occ := by funext x; exact (occ_abs b hb x).symm
  cases p
  · exact absurd rfl hp
  · simp only [pieceAttack, targets, hk, BB.has_ofList]
    exact decide_eq_decide.mpr Iff.rfl
  · simp only [pieceAttack, targets, hn, BB.has_ofList]
    exact decide_eq_decide.mpr Iff.rfl
  · simp only [pieceAttack, targets, bishopAttack_eq_slide, slideBB, BB.has_ofList, hocc, Spec.dirsOf]
    exact decide_eq_decide.mpr Iff.rfl
  · simp only [pieceAttack, targets, rookAttack_eq_slide, slideBB, BB.has_ofList, hocc, Spec.dirsOf]
    exact decide_eq_decide.mpr Iff.rfl
  · simp only [pieceAttack, targets, BB.has_or, bishopAttack_eq_slide, rookAttack_eq_slide, slideBB, BB.has_ofList, hocc,
      Spec.dirsOf]
    refine Eq.trans ?_ (Eq.trans (decide_slide_append Spec.bishopDirs Spec.rookDirs (abs b.r).occ s d).symm
      (decide_eq_decide.mpr Iff.rfl))
    congr 1 <;> exact decide_eq_decide.mpr Iff.rfl

theorem piece_bridge (b : Board) (hv : Valid b) (p : Piece) (hp : p ≠ .pawn) (s d : Sq) (k : Kind)
    (hs : b.get s = Cell.mk b.r.side p) (hk1 : k ≠ .castleK) (hk2 : k ≠ .castleQ) :
    (k = .simple ∧ d ∈ targets (abs b.r) p s
        ∧ (!((abs b.r).get d).any (fun x => x.color == b.r.side)) = true) ↔
      ((mkMove b.r.side k p s d).isWellFormed = true ∧ isSemilegal b (mkMove b.r.side k p s d) = true) := by
  by_cases hk : k = .simple
  · subst hk
    rw [sl_piece b p hp, targets_has b hv.shape.cons p hp, get_abs]
    have : b.r.get d = b.get d := rfl
    rw [this, cell_free]
    simp [hs]
  · constructor
    · intro h; exact absurd h.1 hk
    · intro h
      rcases (sl_kinds h).2.1 hp with h' | h' | h'
      · exact absurd h' hk
      · exact absurd h' hk1
      · exact absurd h' hk2

theorem absMove_conc (sm : Spec.Move) : absMove (concMove sm) = some sm := by
  obtain ⟨k, ⟨c, p⟩, s, d⟩ := sm
  simp [absMove, concMove, absCell_mk]

theorem concMove_eq (sm : Spec.Move) : concMove sm = mkMove sm.man.color sm.kind sm.man.piece sm.src sm.dst := rfl

theorem sl_color (b : Board) (sm : Spec.Move) (h : isSemilegal b (concMove sm) = true) : sm.man.color = b.r.side := by
  have := (semilegal_base b _ h).2.2.1
  rw [concMove_eq] at this
  simp only [mkMove, color_mk, Option.some.injEq] at this
  exact this

theorem sl_src (b : Board) (sm : Spec.Move) (h : isSemilegal b (concMove sm) = true) :
    b.get sm.src = Cell.mk sm.man.color sm.man.piece := (semilegal_base b _ h).2.1

theorem castle_bridge (b : Board) (hv : Valid b) (sm : Spec.Move) :
    sm ∈ Spec.castleMoves (abs b.r) b.r.side ↔
      ((sm.kind = .castleK ∨ sm.kind = .castleQ)
        ∧ (concMove sm).isWellFormed = true ∧ isSemilegal b (concMove sm) = true) := by
  have hb := hv.shape.cons
  have hget : ∀ t, (abs b.r).get t = absCell (b.get t) := fun t => get_abs b.r t
  have hsq := sqOf_eq b.r.side
  have hatt : ∀ t, Spec.attackedBy (abs b.r) t b.r.side.inv = isCellAttacked b t b.r.side.inv :=
    fun t => (isCellAttacked_iff b hb t b.r.side.inv).symm
  obtain ⟨hpK, hpQ⟩ := pass_iff b hb b.r.side
  rw [BitVec.and_comm] at hpK hpQ
  -- the rules name the files of the castling squares by numerals, the implementation by `fileC` … `fileG`
  have s1 : Sq.mk (1 : Fin 8) (castlingRank b.r.side) = Sq.mk ⟨1, by decide⟩ (castlingRank b.r.side) := rfl
  have s2 : Sq.mk (2 : Fin 8) (castlingRank b.r.side) = Sq.mk fileC (castlingRank b.r.side) := rfl
  have s3 : Sq.mk (3 : Fin 8) (castlingRank b.r.side) = Sq.mk fileD (castlingRank b.r.side) := rfl
  have s4 : Sq.mk (4 : Fin 8) (castlingRank b.r.side) = Sq.mk fileE (castlingRank b.r.side) := rfl
  have s5 : Sq.mk (5 : Fin 8) (castlingRank b.r.side) = Sq.mk fileF (castlingRank b.r.side) := rfl
  have s6 : Sq.mk (6 : Fin 8) (castlingRank b.r.side) = Sq.mk fileG (castlingRank b.r.side) := rfl
  rw [mem_castleMoves]
  simp only [hget, cell_isNone, hatt, hsq, abs_rights, abs_rights_has, s1, s2, s3, s4, s5, s6, ← hpK, ← hpQ]
  have hK := castle_sq b hv .king
  have hQ := castle_sq b hv .queen
  constructor
  · rintro (⟨h, rfl⟩ | ⟨h, rfl⟩)
    · exact ⟨Or.inl rfl, hK.mpr h⟩
    · exact ⟨Or.inr rfl, hQ.mpr h⟩
  · rintro ⟨hk, hw⟩
    have hc := sl_color b sm hw.2
    rw [concMove_eq] at hw
    obtain ⟨k, ⟨mc, mp⟩, s, d⟩ := sm
    simp only at hk hw hc
    subst hc
    obtain rfl := (sl_kinds hw).2.2.1 hk
    rcases hk with rfl | rfl
    · obtain ⟨rfl, rfl, _⟩ := (sl_castle b .king _ _).mp hw
      exact Or.inl ⟨hK.mp hw, rfl⟩
    · obtain ⟨rfl, rfl, _⟩ := (sl_castle b .queen _ _).mp hw
      exact Or.inr ⟨hQ.mp hw, rfl⟩

theorem piece_part (b : Board) (hv : Valid b) (s : Sq) (m : Spec.Man) (hg : (abs b.r).get s = some m)
    (hc : m.color = b.r.side) (sm : Spec.Move) :
    sm ∈ Spec.pieceMoves (abs b.r) s m ↔
      (sm.man = m ∧ sm.src = s ∧ sm.kind ≠ .castleK ∧ sm.kind ≠ .castleQ
        ∧ (concMove sm).isWellFormed = true ∧ isSemilegal b (concMove sm) = true) := by
  obtain ⟨c, p⟩ := m
  simp only at hc
  subst hc
  have hs : b.get s = Cell.mk b.r.side p := by
    rw [get_abs] at hg; exact (absCell_eq_some _ _ _).mp hg
  obtain ⟨k, m', s', d⟩ := sm
  by_cases hp : p = .pawn
  · subst hp
    rw [pieceMoves_pawn, mem_pawnMoves]
    simp only
    constructor
    · rintro ⟨rfl, rfl, h⟩
      have hw := (pawn_bridge b hv s' d k hs).mp h
      have hk := (sl_kinds hw).1 rfl
      exact ⟨rfl, rfl, hk.2.1, hk.2.2, hw⟩
    · rintro ⟨rfl, rfl, _, _, hw⟩
      exact ⟨rfl, rfl, (pawn_bridge b hv s' d k hs).mpr hw⟩
  · rw [mem_pieceMoves _ _ _ hp]
    simp only
    constructor
    · rintro ⟨rfl, rfl, rfl, ht, hf⟩
      exact ⟨rfl, rfl, by decide, by decide,
        (piece_bridge b hv p hp s' d .simple hs (by decide) (by decide)).mp ⟨rfl, ht, hf⟩⟩
    · rintro ⟨rfl, rfl, hk1, hk2, hw⟩
      obtain ⟨hk, ht, hf⟩ := (piece_bridge b hv p hp s' d k hs hk1 hk2).mpr hw
      exact ⟨hk, rfl, rfl, ht, hf⟩

/-- C06 (specification side): on a board that passes the validation gate the rules' pseudo-legal moves are exactly
the well-formed semilegal moves of the implementation -/
theorem pseudo_iff_semilegal (b : Board) (hv : Valid b) (sm : Spec.Move) :
    sm ∈ Spec.pseudoMoves (abs b.r) ↔
      ((concMove sm).isWellFormed = true ∧ isSemilegal b (concMove sm) = true) := by
  rw [mem_pseudoMoves, abs_side, castle_bridge b hv]
  constructor
  · rintro (⟨hg, hc, h⟩ | h)
    · exact ((piece_part b hv _ _ hg hc sm).mp h).2.2.2.2
    · exact h.2
  · intro hw
    by_cases hk : sm.kind = .castleK ∨ sm.kind = .castleQ
    · exact Or.inr ⟨hk, hw⟩
    · simp only [not_or] at hk
      have hc := sl_color b sm hw.2
      have hg : (abs b.r).get sm.src = some sm.man := by
        rw [get_abs]; exact (absCell_eq_some _ _ _).mpr (sl_src b sm hw.2)
      exact Or.inl ⟨hg, hc, (piece_part b hv sm.src sm.man hg hc sm).mpr ⟨rfl, rfl, hk.1, hk.2, hw⟩⟩

/-- every well-formed semilegal implementation move is the image of a pseudo-legal specification move -/
theorem semilegal_abs (b : Board) (hv : Valid b) (mv : Move) (hwf : mv.isWellFormed = true)
    (hsl : isSemilegal b mv = true) :
    ∃ sm, absMove mv = some sm ∧ concMove sm = mv ∧ sm ∈ Spec.pseudoMoves (abs b.r) := by
  obtain ⟨piece, hcell, _, _⟩ := sl_normal b mv ⟨hwf, hsl⟩
  obtain ⟨k, x, s, d⟩ := mv
  simp only at hcell
  subst hcell
  refine ⟨⟨k, ⟨b.r.side, piece⟩, s, d⟩, ?_, rfl, ?_⟩
  · simp [absMove, absCell_mk]
  · exact (pseudo_iff_semilegal b hv _).mpr ⟨hwf, hsl⟩

/-- the correspondence is one-to-one: `concMove` is injective -/
theorem concMove_inj (a b : Spec.Move) (h : concMove a = concMove b) : a = b := by
  obtain ⟨k, ⟨c, p⟩, s, d⟩ := a
  obtain ⟨k', ⟨c', p'⟩, s', d'⟩ := b
  simp only [concMove, Move.mk.injEq] at h
  obtain ⟨rfl, hc, rfl, rfl⟩ := h
  have := (absCell_mk c p).symm.trans ((congrArg absCell hc).trans (absCell_mk c' p'))
  simp only [Option.some.injEq, Spec.Man.mk.injEq] at this
  obtain ⟨rfl, rfl⟩ := this
  rfl

end Owl.Lemmas
