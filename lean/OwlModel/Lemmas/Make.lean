/-
What `do_make_move` does to each field of the raw board, kind by kind (`makeBody_cells`, `makeBody_header`, `make_*`), and
that it keeps the derived state consistent (C05).  A move writes a few squares; the hash,
the colour sets and the piece sets all follow the squares by the same law (`cellsHash_put`, `colorSet_put`,
`pieceSet_put`), so every kind of move is one computation per component, closed by associativity and commutativity of XOR.
The last section gives the squares after a move in the form the later files use: one man relocated (`post_get`), or
two when castling (`castle_get`).
-/
import OwlModel.Lemmas.Backbone
import OwlModel.Lemmas.Cells

namespace Owl.Lemmas
open Owl Owl.Impl

attribute [local simp] empty_color

theorem headerHash_ep (side : Color) (ep ep' : Option Sq) (k : Rights) :
    headerHash side ep' k = headerHash side ep k ^^^ epKey ep ^^^ epKey ep' := by
  unfold headerHash
  generalize (if side = Color.white then zMoveSide else 0#64) = a
  rw [show a ^^^ epKey ep ^^^ zCastling k ^^^ epKey ep ^^^ epKey ep' = epKey ep ^^^ (epKey ep ^^^ (a ^^^ epKey ep' ^^^ zCastling k))
    by ac_rfl, xor_cancel_left]

theorem headerHash_castling (side : Color) (ep : Option Sq) (k k' : Rights) :
    headerHash side ep k' = headerHash side ep k ^^^ zCastling k ^^^ zCastling k' := by
  unfold headerHash
  rw [BitVec.xor_assoc _ (zCastling k), BitVec.xor_assoc _ (zCastling k), xor_cancel_left]

theorem headerHash_flip (side : Color) (ep : Option Sq) (k : Rights) :
    headerHash side.inv ep k = headerHash side ep k ^^^ zMoveSide := by
  unfold headerHash
  cases side <;> simp [Color.inv] <;> grind

/-- what `make_move_unchecked` needs of its argument, per kind (implied by well-formed + semilegal on a
board with `Shape`, and trivially true for the null move) -/
def MakeOk (b : Board) (mv : Move) : Prop :=
  let c := b.r.side
  match mv.kind with
  | .null => True
  | .simple =>
    b.get mv.src = mv.cell ∧ mv.cell.color = some c ∧ (b.get mv.dst).color ≠ some c ∧ mv.src ≠ mv.dst
  | .promN | .promB | .promR | .promQ =>
    b.get mv.src = mv.cell ∧ mv.cell = Cell.mk c .pawn ∧ (b.get mv.dst).color ≠ some c ∧ mv.src ≠ mv.dst
  | .double =>
    b.get mv.src = Cell.mk c .pawn ∧ b.get mv.dst = Cell.empty ∧ mv.src ≠ mv.dst
  | .ep =>
    let taken := addU mv.dst (-(forwardDelta c))
    b.get mv.src = Cell.mk c .pawn ∧ b.get mv.dst = Cell.empty ∧ b.get taken = Cell.mk c.inv .pawn
      ∧ mv.src ≠ mv.dst ∧ taken ≠ mv.src ∧ taken ≠ mv.dst
  | .castleK =>
    let rank := castlingRank c
    b.get (Sq.mk fileE rank) = Cell.mk c .king ∧ b.get (Sq.mk fileF rank) = Cell.empty
      ∧ b.get (Sq.mk fileG rank) = Cell.empty ∧ b.get (Sq.mk fileH rank) = Cell.mk c .rook
  | .castleQ =>
    let rank := castlingRank c
    b.get (Sq.mk fileA rank) = Cell.mk c .rook ∧ b.get (Sq.mk fileC rank) = Cell.empty
      ∧ b.get (Sq.mk fileD rank) = Cell.empty ∧ b.get (Sq.mk fileE rank) = Cell.mk c .king

theorem clearEp_core (b : Board) (hb : Core b) : Core b.clearEp := by
  obtain ⟨hh, hc, hp⟩ := hb
  rw [clearEp_eq]
  refine ⟨?_, hc, hp⟩
  show b.hash ^^^ epKey b.r.ep = headerHash b.r.side none b.r.castling ^^^ cellsHash b.r.cells
  rw [headerHash_ep b.r.side b.r.ep none b.r.castling, hh]
  simp only [epKey, BitVec.xor_zero]
  ac_rfl

theorem tail_consistent (B : Board) (mc mn : Nat) (hB : Core B) :
    Consistent (((B.setTurn mc B.r.side.inv mn).xorHash zMoveSide).refreshAll) := by
  rw [consistent_core]
  obtain ⟨hh, hc, hp⟩ := hB
  refine ⟨⟨?_, fun c => ?_, hp⟩, ?_⟩
  · show B.hash ^^^ zMoveSide = headerHash B.r.side.inv B.r.ep B.r.castling ^^^ cellsHash B.r.cells
    rw [headerHash_flip, hh]; ac_rfl
  · simp only [refreshAll_color, xorHash_color, setTurn_color]; exact hc c
  · simp

theorem makeBody_cells (c : Color) (b : Board) (mv : Move) (d : Cell) :
    (makeBody c b mv d).r.cells =
      match mv.kind with
      | .null => b.r.cells
      | .simple => (b.r.cells.put mv.src Cell.empty).put mv.dst mv.cell
      | .double => (b.r.cells.put mv.src Cell.empty).put mv.dst (Cell.mk c .pawn)
      | .castleK => (((b.r.cells.put (Sq.mk fileE (castlingRank c)) Cell.empty).put (Sq.mk fileF (castlingRank c)) (Cell.mk c .rook)).put
          (Sq.mk fileG (castlingRank c)) (Cell.mk c .king)).put (Sq.mk fileH (castlingRank c)) Cell.empty
      | .castleQ => (((b.r.cells.put (Sq.mk fileA (castlingRank c)) Cell.empty).put (Sq.mk fileC (castlingRank c)) (Cell.mk c .king)).put
          (Sq.mk fileD (castlingRank c)) (Cell.mk c .rook)).put (Sq.mk fileE (castlingRank c)) Cell.empty
      | .ep => ((b.r.cells.put mv.src Cell.empty).put mv.dst (Cell.mk c .pawn)).put (addU mv.dst (-(forwardDelta c))) Cell.empty
      | _ => (b.r.cells.put mv.src Cell.empty).put mv.dst (Cell.mk c (mv.kind.promote.getD .queen)) := by
  unfold makeBody
  cases mv.kind <;>
    simp [makeCastlingK, makeCastlingQ, makePawnDouble, makeEnpassant, updateCastling_eq]
  split <;> simp

/-- the fields besides the squares. The rights lost are those of `update_castling` (told nothing when a pawn moves) or the
castling side's own; side to move and counters are left to the end of `do_make_move`; only a double step leaves a mark -/
theorem makeBody_header (c : Color) (b : Board) (mv : Move) (d : Cell) :
    ((makeBody c b mv d).r.castling =
      match mv.kind with
      | .simple => rightsAfter b.r.castling
          (if mv.cell ≠ Cell.mk c .pawn then BB.single mv.src ||| BB.single mv.dst else 0#64)
      | .castleK | .castleQ => rWithoutColor b.r.castling c
      | .null | .double | .ep => b.r.castling
      | _ => rightsAfter b.r.castling (BB.single mv.src ||| BB.single mv.dst))
    ∧ (makeBody c b mv d).r.side = b.r.side
    ∧ (makeBody c b mv d).r.ep = if mv.kind = .double then some mv.dst else b.r.ep := by
  unfold makeBody
  cases mv.kind <;>
    simp [makeCastlingK, makeCastlingQ, makePawnDouble, makeEnpassant, updateCastling_eq]
  split <;> simp [rightsAfter_zero]

theorem satInc_eq (n : Nat) : satInc n = min (n + 1) 65535 := by
  unfold satInc; split <;> omega

theorem make_side (b : Board) (mv : Move) : (makeMove b mv).1.r.side = b.r.side.inv := by
  unfold makeMove; simp
theorem make_mn (b : Board) (mv : Move) :
    (makeMove b mv).1.r.mn = if b.r.side = .black then satInc b.r.mn else b.r.mn := by
  unfold makeMove; simp
theorem make_mc (b : Board) (mv : Move) :
    (makeMove b mv).1.r.mc =
      if b.get mv.dst ≠ Cell.empty || mv.cell = Cell.mk b.r.side .pawn then 0 else satInc b.r.mc := by
  unfold makeMove; simp
theorem make_ep (b : Board) (mv : Move) :
    (makeMove b mv).1.r.ep = if mv.kind = .double then some mv.dst else none := by
  unfold makeMove
  simp only [refreshAll_r, xorHash_r, setTurn_ep, (makeBody_header ..).2.2, clearEp_ep]
theorem make_cells (b : Board) (mv : Move) :
    (makeMove b mv).1.r.cells = (makeBody b.r.side b.clearEp mv (b.get mv.dst)).r.cells := by
  unfold makeMove; simp
theorem make_castling (b : Board) (mv : Move) :
    (makeMove b mv).1.r.castling = (makeBody b.r.side b.clearEp mv (b.get mv.dst)).r.castling := by
  unfold makeMove; simp

theorem xorPiece_xorPiece (b : Board) (x : Cell) (v w : BB) : (b.xorPiece x v).xorPiece x w = b.xorPiece x (v ^^^ w) := by
  have : ∀ (t : Tab 13 BB) (a a' : BB), (t.put x a).put x a' = t.put x a' := by
    intro t a a'; apply Tab.ext; intro j; simp only [Tab.get_put]; split <;> rfl
  simp [Board.xorPiece, this, BitVec.xor_assoc]

/-- `do_make_move` for a simple move (`P = m`) and for a promotion (`m` the pawn, `P` the new piece): `m` leaves `s`,
`P` lands on `d`, whatever stood there (`y`) goes; `chg` is what `update_castling` is told -/
def moveBody (c : Color) (b : Board) (s d : Sq) (m P y : Cell) (chg : BB) : Board :=
  updateCastling
    ((((((((b.putCell s Cell.empty).putCell d P).xorHash (zPieces m s ^^^ zPieces P d ^^^ zPieces y d)).xorColor c
      (BB.single s ||| BB.single d)).xorPiece m (BB.single s)).xorPiece P (BB.single d)).andNotColor c.inv
      (BB.single d)).andNotPiece y (BB.single d)) chg

theorem makeBody_simple (c : Color) (b : Board) (mv : Move) (y : Cell) (hk : mv.kind = .simple) (hne : mv.src ≠ mv.dst) :
    makeBody c b mv y = moveBody c b mv.src mv.dst mv.cell mv.cell y
      (if mv.cell ≠ Cell.mk c .pawn then BB.single mv.src ||| BB.single mv.dst else 0#64) := by
  unfold makeBody moveBody
  simp only [hk]
  -- `piece(src_cell) ^= src | dst` is the two steps of `moveBody` in one
  rw [ite_updateCastling, xorPiece_xorPiece, ← BB.single_or_single hne]

theorem makeBody_promote (c : Color) (b : Board) (mv : Move) (y : Cell)
    (hk : mv.kind = .promN ∨ mv.kind = .promB ∨ mv.kind = .promR ∨ mv.kind = .promQ) (hcell : mv.cell = Cell.mk c .pawn) :
    makeBody c b mv y = moveBody c b mv.src mv.dst (Cell.mk c .pawn) (Cell.mk c (mv.kind.promote.getD .queen)) y
      (BB.single mv.src ||| BB.single mv.dst) := by
  unfold makeBody moveBody
  rcases hk with h | h | h | h <;> simp [h, hcell]

/-- Stated about any `B` with `hB : B = …` (and below about any `tk` with `htk`): a caller hands in `makeBody …` itself, or a
square it has generalised, with the equation proved by unfolding, and the conclusion can speak of `B.r.castling` -/
theorem moveBody_spec (c : Color) (b : Board) {s d : Sq} (m P y : Cell) (chg : BB) (hne : s ≠ d) (B : Board)
    (hB : B = moveBody c b s d m P y chg) :
    (∀ c', B.color c' = if c = c' then b.color c' ^^^ (BB.single s ^^^ BB.single d) else b.color c' &&& ~~~ BB.single d)
    ∧ (∀ x, B.pieces.get x
        = if y = x then (b.pieces.get x ^^^ (BB.bit (m = x) s ^^^ BB.bit (P = x) d)) &&& ~~~ BB.single d
          else b.pieces.get x ^^^ (BB.bit (m = x) s ^^^ BB.bit (P = x) d))
    ∧ B.hash = b.hash ^^^ (zPieces m s ^^^ zPieces P d ^^^ zPieces y d) ^^^ zCastling b.r.castling
        ^^^ zCastling B.r.castling := by
  subst hB
  unfold moveBody
  rw [updateCastling_eq, BB.single_or_single hne]
  refine ⟨fun c' => ?_, fun x => ?_, by simp⟩
  · cases c <;> cases c' <;> simp [Color.inv]
  · simp only [xorHash_pieces, setCastling_pieces, andNotPiece_pieces, andNotColor_pieces, xorPiece_pieces,
      xorColor_pieces, putCell_pieces, Tab.get_put]
    by_cases h1 : m = x <;> by_cases h2 : P = x <;> by_cases h3 : y = x <;> simp_all [BB.bit, BitVec.xor_assoc]

/-- a man leaves `s`, a man of the same colour lands on `d`, and what stood there, not of that colour, goes -/
theorem move_core {b B : Board} {s d : Sq} {m P : Cell} {chg : BB} (hb : Core b) (hne : s ≠ d)
    (hs : b.r.cells.get s = m) (hm : m.color = some b.r.side) (hP : P.color = some b.r.side)
    (hd : (b.r.cells.get d).color ≠ some b.r.side) (hB : B = moveBody b.r.side b s d m P (b.r.cells.get d) chg)
    (hcells : B.r.cells = (b.r.cells.put s Cell.empty).put d P) (hrest : B.r.side = b.r.side ∧ B.r.ep = b.r.ep) :
    Core B := by
  obtain ⟨hh, hc, hp⟩ := hb
  obtain ⟨hcol, hpc, hhash⟩ := moveBody_spec b.r.side b m P (b.r.cells.get d) chg hne B hB
  have hm0 : m ≠ Cell.empty := color_ne_empty hm
  have hP0 : P ≠ Cell.empty := color_ne_empty hP
  refine ⟨?_, fun c' => ?_, fun x => ?_⟩
  · rw [hhash, hcells, hrest.1, hrest.2, headerHash_castling _ _ b.r.castling, cellsHash_put, cellsHash_put, hh]
    simp only [Tab.get_put, hne, if_false, hs, zPieces_empty, Cell.empty, BitVec.xor_zero]
    ac_rfl
  · rw [hcol, hcells, colorSet_put, colorSet_put, hc]
    by_cases e : b.r.side = c'
    · subst e; simp [Tab.get_put, hne, hs, hm, hP, hd, BitVec.xor_assoc]
    · -- the other colour: AND-NOT of `d` is XOR-ing `d` out if it is in, which is what `colorSet_put` says of the old `d`
      simp [Tab.get_put, hne, hs, hm, hP, e, BB.andNot_single, has_colorSet]
  · rw [hpc, hcells, pieceSet_put, pieceSet_put, hp]
    by_cases h : b.r.cells.get d = x
    · subst h
      have hmd : ¬ m = b.r.cells.get d := fun e => hd (e ▸ hm)
      have hPd : ¬ P = b.r.cells.get d := fun e => hd (e ▸ hP)
      simp [Tab.get_put, hne, hs, hmd, hPd, BB.andNot_single, has_pieceSet, Cell.empty]
    · simp [Tab.get_put, hne, hs, hm0, hP0, h, BitVec.xor_assoc]

theorem makeBody_side_ep (c : Color) (b : Board) (mv : Move) (d : Cell) (hk : mv.kind ≠ .double) :
    (makeBody c b mv d).r.side = b.r.side ∧ (makeBody c b mv d).r.ep = b.r.ep := by
  obtain ⟨-, h1, h2⟩ := makeBody_header c b mv d
  exact ⟨h1, by rw [h2, if_neg hk]⟩

theorem body_simple_core (b : Board) (mv : Move) (hb : Core b) (hk : mv.kind = .simple)
    (ok : MakeOk b mv) : Core (makeBody b.r.side b mv (b.get mv.dst)) := by
  simp only [MakeOk, hk] at ok
  obtain ⟨hsrc, hcol, hdst, hne⟩ := ok
  exact move_core hb hne hsrc hcol hcol hdst (makeBody_simple _ _ _ _ hk hne) (by rw [makeBody_cells]; simp only [hk])
    (makeBody_side_ep _ _ _ _ (by simp [hk]))

theorem makeOk_promote {b : Board} {mv : Move}
    (hk : mv.kind = .promN ∨ mv.kind = .promB ∨ mv.kind = .promR ∨ mv.kind = .promQ) (ok : MakeOk b mv) :
    b.get mv.src = mv.cell ∧ mv.cell = Cell.mk b.r.side .pawn ∧ (b.get mv.dst).color ≠ some b.r.side
      ∧ mv.src ≠ mv.dst := by
  rcases hk with h | h | h | h <;> simpa [MakeOk, h] using ok

theorem body_promote_core (b : Board) (mv : Move) (hb : Core b)
    (hk : mv.kind = .promN ∨ mv.kind = .promB ∨ mv.kind = .promR ∨ mv.kind = .promQ)
    (ok : MakeOk b mv) : Core (makeBody b.r.side b mv (b.get mv.dst)) := by
  obtain ⟨hsrc, hcell, hdst, hne⟩ := makeOk_promote hk ok
  exact move_core hb hne (hcell ▸ hsrc) (color_mk _ _) (color_mk _ _) hdst (makeBody_promote _ _ _ _ hk hcell)
    (by rw [makeBody_cells]; rcases hk with h | h | h | h <;> simp only [h])
    (makeBody_side_ep _ _ _ _ (by rcases hk with h | h | h | h <;> simp [h]))

/-- `B` has the colour and piece sets of `b` with these masks XOR-ed in: what the helpers serving both directions do -/
def XorSets (b B : Board) (M : Color → BB) (N : Cell → BB) : Prop :=
  (∀ c', B.color c' = b.color c' ^^^ M c') ∧ (∀ x, B.pieces.get x = b.pieces.get x ^^^ N x)

theorem makePawnDouble_spec (c : Color) (b : Board) (mv : Move) (inv : Bool) (hne : mv.src ≠ mv.dst) (B : Board)
    (hB : B = makePawnDouble c b mv (BB.single mv.src ||| BB.single mv.dst) inv) :
    XorSets b B (fun c' => BB.bit (c = c') mv.src ^^^ BB.bit (c = c') mv.dst)
      (fun x => BB.bit (Cell.mk c .pawn = x) mv.src ^^^ BB.bit (Cell.mk c .pawn = x) mv.dst)
    ∧ (inv = false → B.hash
        = b.hash ^^^ (zPieces (Cell.mk c .pawn) mv.src ^^^ zPieces (Cell.mk c .pawn) mv.dst) ^^^ zEnpassant mv.dst) := by
  subst hB
  unfold makePawnDouble
  rw [BB.single_or_single hne]
  refine ⟨⟨fun c' => ?_, fun x => ?_⟩, ?_⟩
  · cases inv <;> cases c <;> cases c' <;> simp
  · by_cases h : Cell.mk c .pawn = x <;> cases inv <;> simp [h]
  · rintro rfl; simp

theorem makeEnpassant_spec (c : Color) (b : Board) (mv : Move) (inv : Bool) (hne : mv.src ≠ mv.dst) (tk : Sq)
    (htk : tk = addU mv.dst (-(forwardDelta c))) (B : Board)
    (hB : B = makeEnpassant c b mv (BB.single mv.src ||| BB.single mv.dst) inv) :
    XorSets b B (fun c' => BB.bit (c = c') mv.src ^^^ BB.bit (c = c') mv.dst ^^^ BB.bit (c.inv = c') tk)
      (fun x => BB.bit (Cell.mk c .pawn = x) mv.src ^^^ BB.bit (Cell.mk c .pawn = x) mv.dst
        ^^^ BB.bit (Cell.mk c.inv .pawn = x) tk)
    ∧ (inv = false → B.hash = b.hash ^^^ (zPieces (Cell.mk c .pawn) mv.src ^^^ zPieces (Cell.mk c .pawn) mv.dst
        ^^^ zPieces (Cell.mk c.inv .pawn) tk)) := by
  subst hB htk
  unfold makeEnpassant
  rw [BB.single_or_single hne]
  refine ⟨⟨fun c' => ?_, fun x => ?_⟩, ?_⟩
  · cases inv <;> cases c <;> cases c' <;> simp [Color.inv]
  · by_cases h : Cell.mk c .pawn = x <;> by_cases h' : Cell.mk c.inv .pawn = x <;> cases inv <;>
      simp_all [Tab.get_put, BitVec.xor_assoc]
  · rintro rfl; simp

theorem body_double_core (b : Board) (mv : Move) (hb : Core b) (hk : mv.kind = .double)
    (ok : MakeOk b mv) (hep : b.r.ep = none) : Core (makeBody b.r.side b mv (b.get mv.dst)) := by
  obtain ⟨hh, hc, hp⟩ := hb
  simp only [MakeOk, hk] at ok
  obtain ⟨(e1 : b.r.cells.get mv.src = _), (e2 : b.r.cells.get mv.dst = _), hne⟩ := ok
  obtain ⟨⟨hcol, hpc⟩, hhash⟩ := makePawnDouble_spec b.r.side b mv false hne (makeBody b.r.side b mv (b.get mv.dst))
    (by unfold makeBody; simp only [hk])
  have hcells := makeBody_cells b.r.side b mv (b.get mv.dst)
  obtain ⟨hcast, hside, hep'⟩ := makeBody_header b.r.side b mv (b.get mv.dst)
  simp only [hk, if_true] at hcells hep' hcast
  refine ⟨?_, fun c' => ?_, fun x => ?_⟩
  · rw [hep] at hh
    rw [hhash rfl, hside, hep', hcast, hcells, headerHash_ep _ none, cellsHash_put, cellsHash_put, hh]
    simp only [Tab.get_put, hne, if_false, e1, e2, zPieces_empty, Cell.empty, epKey, BitVec.xor_zero]
    ac_rfl
  · rw [hcol, hcells, hc]
    simp [colorSet_put, Tab.get_put, hne, e1, e2, BitVec.xor_assoc]
  · rw [hpc, hcells, hp]
    simp [pieceSet_put, Tab.get_put, hne, e1, e2, mk_ne_zero, Cell.empty, BitVec.xor_assoc]

theorem body_ep_core (b : Board) (mv : Move) (hb : Core b) (hk : mv.kind = .ep)
    (ok : MakeOk b mv) : Core (makeBody b.r.side b mv (b.get mv.dst)) := by
  obtain ⟨hh, hc, hp⟩ := hb
  simp only [MakeOk, hk] at ok
  obtain ⟨(e1 : b.r.cells.get mv.src = _), (e2 : b.r.cells.get mv.dst = _), (e3 : b.r.cells.get _ = _), hne, hts, htd⟩ := ok
  obtain ⟨⟨hcol, hpc⟩, hhash⟩ := makeEnpassant_spec b.r.side b mv false hne _ rfl (makeBody b.r.side b mv (b.get mv.dst))
    (by unfold makeBody; simp only [hk])
  have hcells := makeBody_cells b.r.side b mv (b.get mv.dst)
  obtain ⟨hside, hep⟩ := makeBody_side_ep b.r.side b mv (b.get mv.dst) (by simp [hk])
  have hcast := (makeBody_header b.r.side b mv (b.get mv.dst)).1
  simp only [hk] at hcells hcast
  generalize addU mv.dst (-(forwardDelta b.r.side)) = tk at *
  have n1 : ¬ mv.src = tk := fun e => hts e.symm
  have n2 : ¬ mv.dst = tk := fun e => htd e.symm
  refine ⟨?_, fun c' => ?_, fun x => ?_⟩
  · rw [hhash rfl, hside, hep, hcast, hcells, cellsHash_put, cellsHash_put, cellsHash_put, hh]
    simp only [Tab.get_put, hne, n1, n2, if_false, e1, e2, e3, zPieces_empty, Cell.empty, BitVec.xor_zero]
    ac_rfl
  · rw [hcol, hcells, hc]
    simp [colorSet_put, Tab.get_put, hne, n1, n2, e1, e2, e3, BitVec.xor_assoc]
  · rw [hpc, hcells, hp]
    simp [pieceSet_put, Tab.get_put, hne, n1, n2, e1, e2, e3, mk_ne_zero, Cell.empty, BitVec.xor_assoc]

theorem xorPiece_comm (b : Board) {x y : Cell} (h : x ≠ y) (v w : BB) :
    (b.xorPiece x v).xorPiece y w = (b.xorPiece y w).xorPiece x v := by
  have : ∀ (t : Tab 13 BB) (a a' : BB), (t.put x a).put y a' = (t.put y a').put x a := by
    intro t a a'; apply Tab.ext; intro j; simp only [Tab.get_put]
    by_cases h1 : x = j <;> by_cases h2 : y = j <;> simp [h1, h2]
    exact absurd (h1.trans h2.symm) h
  simp [Board.xorPiece, Tab.get_put, h, Ne.symm h, this]

/-- `do_make_castling_kingside` and `do_make_castling_queenside` as one function of four squares and two men: `mA` goes
from `s1` to `s3` and `mB` from `s4` to `s2`, or back if `inv`; `δ` is the hash constant of that castling -/
def swapBody (c : Color) (b : Board) (s1 s2 s3 s4 : Sq) (mA mB : Cell) (δ : BB) (inv : Bool) : Board :=
  let b := if inv then (((b.putCell s1 mA).putCell s2 Cell.empty).putCell s3 Cell.empty).putCell s4 mB
    else ((((b.putCell s1 Cell.empty).putCell s2 mB).putCell s3 mA).putCell s4 Cell.empty).xorHash δ
  let b := b.xorColor c (BB.single s1 ^^^ BB.single s2 ^^^ BB.single s3 ^^^ BB.single s4)
  let b := b.xorPiece mB (BB.single s2 ^^^ BB.single s4)
  let b := b.xorPiece mA (BB.single s1 ^^^ BB.single s3)
  if !inv then
    let b := b.xorHash (zCastling b.r.castling)
    let b := b.setCastling (rWithoutColor b.r.castling c)
    b.xorHash (zCastling b.r.castling)
  else b

/-- the literal XOR masks of `do_make_castling_*` (0xf0, 0xa0, 0x50; 0x1d, 0x09, 0x14), shifted by `CASTLING_OFFSET`, are
these squares -/
theorem castle_masks (c : Color) :
    BB.ofNat (Gen.ksColorMask <<< genericOffset c)
        = BB.single (Sq.mk fileE (castlingRank c)) ^^^ BB.single (Sq.mk fileF (castlingRank c))
          ^^^ BB.single (Sq.mk fileG (castlingRank c)) ^^^ BB.single (Sq.mk fileH (castlingRank c))
    ∧ BB.ofNat (Gen.ksRookMask <<< genericOffset c)
        = BB.single (Sq.mk fileF (castlingRank c)) ^^^ BB.single (Sq.mk fileH (castlingRank c))
    ∧ BB.ofNat (Gen.ksKingMask <<< genericOffset c)
        = BB.single (Sq.mk fileE (castlingRank c)) ^^^ BB.single (Sq.mk fileG (castlingRank c))
    ∧ BB.ofNat (Gen.qsColorMask <<< genericOffset c)
        = BB.single (Sq.mk fileA (castlingRank c)) ^^^ BB.single (Sq.mk fileC (castlingRank c))
          ^^^ BB.single (Sq.mk fileD (castlingRank c)) ^^^ BB.single (Sq.mk fileE (castlingRank c))
    ∧ BB.ofNat (Gen.qsRookMask <<< genericOffset c)
        = BB.single (Sq.mk fileA (castlingRank c)) ^^^ BB.single (Sq.mk fileD (castlingRank c))
    ∧ BB.ofNat (Gen.qsKingMask <<< genericOffset c)
        = BB.single (Sq.mk fileC (castlingRank c)) ^^^ BB.single (Sq.mk fileE (castlingRank c)) := by
  cases c <;> decide +kernel

theorem makeCastlingK_eq (c : Color) (b : Board) (inv : Bool) :
    makeCastlingK c b inv = swapBody c b (Sq.mk fileE (castlingRank c)) (Sq.mk fileF (castlingRank c))
      (Sq.mk fileG (castlingRank c)) (Sq.mk fileH (castlingRank c)) (Cell.mk c .king) (Cell.mk c .rook)
      (zCastlingDelta c .king) inv := by
  obtain ⟨h1, h2, h3, -⟩ := castle_masks c
  unfold makeCastlingK swapBody
  simp only [h1, h2, h3]

theorem makeCastlingQ_eq (c : Color) (b : Board) (inv : Bool) :
    makeCastlingQ c b inv = swapBody c b (Sq.mk fileA (castlingRank c)) (Sq.mk fileC (castlingRank c))
      (Sq.mk fileD (castlingRank c)) (Sq.mk fileE (castlingRank c)) (Cell.mk c .rook) (Cell.mk c .king)
      (zCastlingDelta c .queen) inv := by
  obtain ⟨-, -, -, h1, h2, h3⟩ := castle_masks c
  have hne : Cell.mk c .rook ≠ Cell.mk c .king := fun e => absurd (mk_inj e).2 (by decide)
  unfold makeCastlingQ swapBody
  simp only [h1, h2, h3]
  rw [xorPiece_comm _ hne]

theorem swapBody_spec (c : Color) (b : Board) (s1 s2 s3 s4 : Sq) (mA mB : Cell) (δ : BB) (inv : Bool) (B : Board)
    (hB : B = swapBody c b s1 s2 s3 s4 mA mB δ inv) :
    XorSets b B (fun c' => BB.bit (c = c') s1 ^^^ BB.bit (c = c') s2 ^^^ BB.bit (c = c') s3 ^^^ BB.bit (c = c') s4)
      (fun x => BB.bit (mB = x) s2 ^^^ BB.bit (mB = x) s4 ^^^ (BB.bit (mA = x) s1 ^^^ BB.bit (mA = x) s3))
    ∧ (inv = false → B.hash = b.hash ^^^ δ ^^^ zCastling b.r.castling ^^^ zCastling B.r.castling) := by
  subst hB
  unfold swapBody
  refine ⟨⟨fun c' => ?_, fun x => ?_⟩, ?_⟩
  · cases inv <;> cases c <;> cases c' <;> simp
  · by_cases h : mA = x <;> by_cases h' : mB = x <;> cases inv <;> simp_all [Tab.get_put, BitVec.xor_assoc]
  · rintro rfl; simp

/-- two men of the side to move change places with two empty squares -/
theorem swap_core {b B : Board} {s1 s2 s3 s4 : Sq} {mA mB : Cell} {δ : BB} (hb : Core b)
    (n12 : s1 ≠ s2) (n13 : s1 ≠ s3) (n14 : s1 ≠ s4) (n23 : s2 ≠ s3) (n24 : s2 ≠ s4) (n34 : s3 ≠ s4)
    (h1 : b.r.cells.get s1 = mA) (h2 : b.r.cells.get s2 = Cell.empty) (h3 : b.r.cells.get s3 = Cell.empty)
    (h4 : b.r.cells.get s4 = mB) (hA : mA.color = some b.r.side) (hB : mB.color = some b.r.side)
    (hδ : δ = zPieces mA s1 ^^^ zPieces mA s3 ^^^ zPieces mB s4 ^^^ zPieces mB s2)
    (hBd : B = swapBody b.r.side b s1 s2 s3 s4 mA mB δ false)
    (hcells : B.r.cells = (((b.r.cells.put s1 Cell.empty).put s2 mB).put s3 mA).put s4 Cell.empty)
    (hrest : B.r.side = b.r.side ∧ B.r.ep = b.r.ep) : Core B := by
  obtain ⟨hh, hc, hp⟩ := hb
  obtain ⟨⟨hcol, hpc⟩, hhash⟩ := swapBody_spec b.r.side b s1 s2 s3 s4 mA mB δ false B hBd
  have hA0 : mA ≠ Cell.empty := color_ne_empty hA
  have hB0 : mB ≠ Cell.empty := color_ne_empty hB
  refine ⟨?_, fun c' => ?_, fun x => ?_⟩
  · rw [hhash rfl, hrest.1, hrest.2, hcells, headerHash_castling _ _ b.r.castling, cellsHash_put, cellsHash_put,
      cellsHash_put, cellsHash_put, hh, hδ]
    simp only [Tab.get_put, n12, n13, n14, n23, n24, n34, if_false, h1, h2, h3, h4, zPieces_empty,
      Cell.empty, BitVec.xor_zero]
    ac_rfl
  · rw [hcol, hcells, hc]
    simp only [colorSet_put, Tab.get_put, n12, n13, n14, n23, n24, n34, if_false, h1, h2, h3, h4, hA, hB, empty_color,
      Option.some.injEq, reduceCtorEq, BB.bit_false, BitVec.xor_zero]
    ac_rfl
  · rw [hpc, hcells, hp]
    simp only [pieceSet_put, Tab.get_put, n12, n13, n14, n23, n24, n34, if_false, h1, h2, h3, h4, hA0, hB0, ne_eq,
      not_true_eq_false, not_false_eq_true, and_true, and_false, BB.bit_false, BitVec.xor_zero]
    ac_rfl

theorem castle_delta (c : Color) :
    zCastlingDelta c .king = zPieces (Cell.mk c .king) (Sq.mk fileE (castlingRank c))
        ^^^ zPieces (Cell.mk c .king) (Sq.mk fileG (castlingRank c))
        ^^^ zPieces (Cell.mk c .rook) (Sq.mk fileH (castlingRank c))
        ^^^ zPieces (Cell.mk c .rook) (Sq.mk fileF (castlingRank c))
    ∧ zCastlingDelta c .queen = zPieces (Cell.mk c .rook) (Sq.mk fileA (castlingRank c))
        ^^^ zPieces (Cell.mk c .rook) (Sq.mk fileD (castlingRank c))
        ^^^ zPieces (Cell.mk c .king) (Sq.mk fileE (castlingRank c))
        ^^^ zPieces (Cell.mk c .king) (Sq.mk fileC (castlingRank c)) := by
  cases c <;> decide +kernel

def castleKind : Side → Kind
  | .king => .castleK
  | .queen => .castleQ

/-- castling on side `sd`: the king goes from `kingHomeSq` to `kingTo`, the rook from `rookHomeSq` to `rookTo` -/
def kingHomeSq (c : Color) : Sq := Sq.mk fileE (castlingRank c)
def kingTo (c : Color) : Side → Sq
  | .king => Sq.mk fileG (castlingRank c)
  | .queen => Sq.mk fileC (castlingRank c)
def rookHomeSq (c : Color) : Side → Sq
  | .king => Sq.mk fileH (castlingRank c)
  | .queen => Sq.mk fileA (castlingRank c)
def rookTo (c : Color) : Side → Sq
  | .king => Sq.mk fileF (castlingRank c)
  | .queen => Sq.mk fileD (castlingRank c)

theorem castle_ne (c : Color) (sd : Side) :
    kingHomeSq c ≠ kingTo c sd ∧ kingHomeSq c ≠ rookHomeSq c sd ∧ kingHomeSq c ≠ rookTo c sd
      ∧ kingTo c sd ≠ rookHomeSq c sd ∧ kingTo c sd ≠ rookTo c sd ∧ rookHomeSq c sd ≠ rookTo c sd := by
  cases c <;> cases sd <;> decide

theorem MakeOk.castle {b : Board} {mv : Move} (ok : MakeOk b mv) (sd : Side) (hk : mv.kind = castleKind sd) :
    b.get (kingHomeSq b.r.side) = Cell.mk b.r.side .king ∧ b.get (rookHomeSq b.r.side sd) = Cell.mk b.r.side .rook
      ∧ b.get (kingTo b.r.side sd) = Cell.empty ∧ b.get (rookTo b.r.side sd) = Cell.empty := by
  unfold MakeOk at ok
  cases sd <;> simp only [castleKind] at hk <;> simp only [hk] at ok
  · exact ⟨ok.2.2.2, ok.1, ok.2.1, ok.2.2.1⟩
  · exact ⟨ok.1, ok.2.2.2, ok.2.2.1, ok.2.1⟩

theorem MakeOk.ep {b : Board} {mv : Move} (ok : MakeOk b mv) (hk : mv.kind = .ep) :
    b.get (addU mv.dst (-(forwardDelta b.r.side))) = Cell.mk b.r.side.inv .pawn
      ∧ addU mv.dst (-(forwardDelta b.r.side)) ≠ mv.src ∧ addU mv.dst (-(forwardDelta b.r.side)) ≠ mv.dst := by
  unfold MakeOk at ok
  simp only [hk] at ok
  exact ⟨ok.2.2.1, ok.2.2.2.2⟩

theorem makeOk_clearEp (b : Board) (mv : Move) (ok : MakeOk b mv) : MakeOk b.clearEp mv := by
  unfold MakeOk at ok ⊢
  simp only [clearEp_side, clearEp_get]
  exact ok

theorem body_core (b : Board) (mv : Move) (hb : Core b) (ok : MakeOk b mv) (hep : b.r.ep = none) :
    Core (makeBody b.r.side b mv (b.get mv.dst)) := by
  cases hk : mv.kind
  · unfold makeBody; simp only [hk]; exact hb
  · exact body_simple_core b mv hb hk ok
  · obtain ⟨n1, n2, n3, n4, n5, n6⟩ := castle_ne b.r.side .king
    obtain ⟨bK0, bR0, bK1, bR1⟩ := ok.castle .king hk
    exact swap_core hb n3 n1 n2 n5.symm n6.symm n4 bK0 bR1 bK1 bR0 (color_mk _ _) (color_mk _ _)
      (castle_delta b.r.side).1 ((show _ = makeCastlingK b.r.side b false by unfold makeBody; simp only [hk]).trans
      (makeCastlingK_eq ..)) (by rw [makeBody_cells]; simp only [hk]; rfl) (makeBody_side_ep _ _ _ _ (by simp [hk]))
  · obtain ⟨n1, n2, n3, n4, n5, n6⟩ := castle_ne b.r.side .queen
    obtain ⟨bK0, bR0, bK1, bR1⟩ := ok.castle .queen hk
    exact swap_core hb n4.symm n6 n2.symm n5 n1.symm n3.symm bR0 bK1 bR1 bK0 (color_mk _ _) (color_mk _ _)
      (castle_delta b.r.side).2 ((show _ = makeCastlingQ b.r.side b false by unfold makeBody; simp only [hk]).trans
      (makeCastlingQ_eq ..)) (by rw [makeBody_cells]; simp only [hk]; rfl) (makeBody_side_ep _ _ _ _ (by simp [hk]))
  · exact body_double_core b mv hb hk ok hep
  · exact body_ep_core b mv hb hk ok
  all_goals exact body_promote_core b mv hb (by simp [hk]) ok

/-- C05: `make_move_unchecked` keeps hash and occupancy sets equal to the from-scratch values -/
theorem make_consistent (b : Board) (mv : Move) (hb : Consistent b) (ok : MakeOk b mv) :
    Consistent (makeMove b mv).1 := by
  have hcore := clearEp_core b ((consistent_core b).mp hb).1
  have hbody := body_core b.clearEp mv hcore (makeOk_clearEp b mv ok) (clearEp_ep b)
  rw [clearEp_side, clearEp_get] at hbody
  unfold makeMove
  simp only
  have hs := (makeBody_header b.r.side b.clearEp mv (b.get mv.dst)).2.1
  rw [clearEp_side] at hs
  have := tail_consistent (makeBody b.r.side b.clearEp mv (b.get mv.dst))
    (if b.get mv.dst ≠ Cell.empty || mv.cell = Cell.mk b.r.side .pawn then 0 else satInc b.r.mc)
    (if b.r.side = .black then satInc b.r.mn else b.r.mn) hbody
  rw [hs] at this
  exact this

def NonCastle (mv : Move) : Prop := mv.kind ≠ .null ∧ mv.kind ≠ .castleK ∧ mv.kind ≠ .castleQ

/-- the man standing on the destination after a non-castling move -/
def newCell (mv : Move) (c : Color) : Cell :=
  match mv.kind with
  | .simple => mv.cell
  | .promN => Cell.mk c .knight | .promB => Cell.mk c .bishop | .promR => Cell.mk c .rook | .promQ => Cell.mk c .queen
  | _ => Cell.mk c .pawn

/-- the man on `s` goes to `d` and becomes `x` -/
def relocate (g : Sq → Cell) (s d : Sq) (x : Cell) : Sq → Cell :=
  fun t => if t = d then x else if t = s then Cell.empty else g t

theorem relocate_dst (g : Sq → Cell) (s d : Sq) (x : Cell) : relocate g s d x d = x := if_pos rfl

theorem relocate_src (g : Sq → Cell) {s d : Sq} (x : Cell) (h : s ≠ d) : relocate g s d x s = Cell.empty :=
  (if_neg h).trans (if_pos rfl)

theorem relocate_other (g : Sq → Cell) {s d t : Sq} (x : Cell) (hd : t ≠ d) (hs : t ≠ s) : relocate g s d x t = g t :=
  (if_neg hd).trans (if_neg hs)

theorem relocate_cases (g : Sq → Cell) (s d : Sq) (x : Cell) (t : Sq) :
    (t = d ∧ relocate g s d x t = x) ∨ (t ≠ d ∧ t = s ∧ relocate g s d x t = Cell.empty)
      ∨ (t ≠ d ∧ t ≠ s ∧ relocate g s d x t = g t) := by
  by_cases e1 : t = d
  · exact .inl ⟨e1, if_pos e1⟩
  · by_cases e2 : t = s
    · exact .inr (.inl ⟨e1, e2, (if_neg e1).trans (if_pos e2)⟩)
    · exact .inr (.inr ⟨e1, e2, relocate_other g x e1 e2⟩)

/-- the squares after a non-castling move: the man is relocated, and the pawn taken en passant removed -/
theorem post_get (b : Board) (mv : Move) (hn : NonCastle mv) :
    (makeMove b mv).1.get = fun t => if mv.kind = .ep ∧ addU mv.dst (-(forwardDelta b.r.side)) = t then Cell.empty
      else relocate b.get mv.src mv.dst (newCell mv b.r.side) t := by
  obtain ⟨h0, h1, h2⟩ := hn
  funext t
  show (makeMove b mv).1.r.cells.get t = _
  rw [make_cells, makeBody_cells, clearEp_cells]
  unfold relocate newCell
  cases hk : mv.kind <;> first | exact absurd hk h0 | exact absurd hk h1 | exact absurd hk h2 | skip
  -- the tests of `relocate` and of the removal come in the order of the writes, last first
  all_goals
    simp only [Tab.get_put, reduceCtorEq, false_and, true_and, if_false, eq_comm (a := t)]
    rfl

theorem mk_inj_file (f f' r : Fin 8) : Sq.mk f r = Sq.mk f' r ↔ f = f' :=
  ⟨fun h => by simpa using congrArg Sq.file h, fun h => h ▸ rfl⟩

/-- the four writes of castling are two relocations: the squares are distinct, so the order does not matter -/
theorem castle_get (b : Board) (mv : Move) (sd : Side) (hk : mv.kind = castleKind sd) :
    (makeMove b mv).1.get = relocate (relocate b.get (kingHomeSq b.r.side) (kingTo b.r.side sd) (Cell.mk b.r.side .king))
      (rookHomeSq b.r.side sd) (rookTo b.r.side sd) (Cell.mk b.r.side .rook) := by
  have files : fileA = 0 ∧ fileC = 2 ∧ fileD = 3 ∧ fileE = 4 ∧ fileF = 5 ∧ fileG = 6 ∧ fileH = 7 :=
    ⟨rfl, rfl, rfl, rfl, rfl, rfl, rfl⟩
  funext t
  show (makeMove b mv).1.r.cells.get t = _
  rw [make_cells, makeBody_cells, clearEp_cells]
  cases sd <;>
  · simp only [castleKind] at hk
    simp only [hk, Tab.get_put, relocate, kingHomeSq, kingTo, rookHomeSq, rookTo]
    -- the files of the castling squares, seven for the two sides together so that one proof serves both: there `simp`
    -- decides every test of the two if-chains; on any other square all of them fail
    by_cases h : ∃ f, (f = fileA ∨ f = fileC ∨ f = fileD ∨ f = fileE ∨ f = fileF ∨ f = fileG ∨ f = fileH)
        ∧ t = Sq.mk f (castlingRank b.r.side)
    · obtain ⟨f, hf, rfl⟩ := h
      rcases hf with rfl | rfl | rfl | rfl | rfl | rfl | rfl <;> simp [mk_inj_file, files] <;> rfl
    · have h' : ∀ f, (f = fileA ∨ f = fileC ∨ f = fileD ∨ f = fileE ∨ f = fileF ∨ f = fileG ∨ f = fileH) →
          ¬ t = Sq.mk f (castlingRank b.r.side) := fun f hf e => h ⟨f, hf, e⟩
      simp [h', eq_comm (b := t)]
      rfl

/-- a square that a move does not name, is not the square of a pawn taken en passant, and for castling lies off the
mover's back rank, keeps its man -/
theorem make_get_other (b : Board) (mv : Move) (t : Sq) (h1 : t ≠ mv.src) (h2 : t ≠ mv.dst)
    (h3 : (∃ sd, mv.kind = castleKind sd) → t.rank ≠ castlingRank b.r.side)
    (h4 : mv.kind = .ep → t ≠ addU mv.dst (-(forwardDelta b.r.side))) :
    (makeMove b mv).1.get t = b.get t := by
  by_cases hk0 : mv.kind = .null
  · show (makeMove b mv).1.r.cells.get t = _
    rw [make_cells, makeBody_cells, clearEp_cells, hk0]
    rfl
  by_cases hc : ∃ sd, mv.kind = castleKind sd
  · obtain ⟨sd, hk⟩ := hc
    have hr : ∀ f, t ≠ Sq.mk f (castlingRank b.r.side) := fun f e => h3 ⟨sd, hk⟩ (by rw [e]; simp)
    rw [castle_get b mv sd hk]
    cases sd <;> exact (relocate_other _ _ (hr _) (hr _)).trans (relocate_other _ _ (hr _) (hr _))
  · rw [post_get b mv ⟨hk0, fun e => hc ⟨.king, e⟩, fun e => hc ⟨.queen, e⟩⟩]
    exact (if_neg fun e => h4 e.1 e.2.symm).trans (relocate_other _ _ h2 h1)

end Owl.Lemmas
