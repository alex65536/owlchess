/-
C16: the attack and check queries of a consistent board in terms of the specification (`cellAttackers_has`,
`isCellAttacked_iff`, `kingPos_eq`, `isCheck_eq`, `checkers_eq`). Before them what the queries are made of: the leaper
tables read from either end, the attack set of a piece as geometry plus free path (`pieceAttack_has`,
`pieceAttack_symm`), and the plain readings of the abstraction `abs` (`get_abs`, `absCell_*`, `abs_*`, `piece2_has`);
after them `HasKings`, under which the queries that look for a king return a value.
-/
import OwlModel.Lemmas.Between
import OwlModel.Lemmas.Backbone
import OwlModel.Lemmas.Cells
import OwlModel.Lemmas.SemiView
import OwlModel.Abs

namespace Owl.Lemmas
open Owl Owl.Impl

theorem has_stepsOf (L : List (Int × Int)) (s t : Sq) :
    (BB.ofList (stepsOf s L)).has t = L.any fun d => Spec.step s d == some t := by
  rw [BB.has_ofList, Bool.eq_iff_iff]
  simp only [stepsOf, decide_eq_true_eq, List.mem_filterMap, List.any_eq_true, beq_iff_eq]

/-- no square is one step from itself -/
theorem stepsOf_self {L : List (Int × Int)} (h : ((0 : Int), (0 : Int)) ∉ L) (t : Sq) :
    (BB.ofList (stepsOf t L)).has t = false := by
  rw [has_stepsOf, List.any_eq_false]
  intro d hd e
  have := (step_eq_some t t d).mp (by simpa using e)
  exact h (by rwa [show d = (0, 0) from Prod.ext (by omega) (by omega)] at hd)

/-- a leaper table read from the target: `s` is one step of `L` from `t` iff `t` is one step of `−L` from `s` -/
theorem has_stepsOf_neg {L L' : List (Int × Int)} (h : ∀ d ∈ L, negDir d ∈ L') (h' : ∀ d ∈ L', negDir d ∈ L)
    (s t : Sq) : (BB.ofList (stepsOf t L)).has s = L'.any fun d => Spec.step s d == some t := by
  rw [BB.has_ofList, Bool.eq_iff_iff]
  simp only [stepsOf, decide_eq_true_eq, List.mem_filterMap, List.any_eq_true, beq_iff_eq]
  constructor
  · rintro ⟨d, hd, e⟩; exact ⟨_, h d hd, (step_neg t s d).mp e⟩
  · rintro ⟨d, hd, e⟩; exact ⟨_, h' d hd, (step_neg s t d).mp e⟩

/-- different steps from a square lead to different squares -/
theorem stepsOf_nodup (s : Sq) (steps : List (Int × Int)) (h : steps.Nodup) : (stepsOf s steps).Nodup := by
  refine List.Pairwise.filterMap _ ?_ h
  intro d d' hne t ht t' ht' e
  subst e
  apply hne
  obtain ⟨a, b⟩ := d
  obtain ⟨a', b'⟩ := d'
  rw [step_eq_some] at ht ht'
  simp only at ht ht'
  have : a = a' ∧ b = b' := by omega
  rw [this.1, this.2]

/-- leaper / pawn attack tables in the sense the attack queries use them: looked up at the target -/
theorem near_sym_sq (s t : Sq) :
    ((kingAttack t).has s = Spec.kingSteps.any fun d => Spec.step s d == some t)
    ∧ ((knightAttack t).has s = Spec.knightSteps.any fun d => Spec.step s d == some t)
    ∧ ((pawnAttack .black t).has s = [((-1 : Int), Spec.forward .white), (1, Spec.forward .white)].any fun d => Spec.step s d == some t)
    ∧ ((pawnAttack .white t).has s = [((-1 : Int), Spec.forward .black), (1, Spec.forward .black)].any fun d => Spec.step s d == some t) := by
  obtain ⟨hk, hn, hw, hb⟩ := near_check_sq t
  rw [hk, hn, hw, hb]
  exact ⟨has_stepsOf_neg (by decide) (by decide) s t, has_stepsOf_neg (by decide) (by decide) s t,
    has_stepsOf_neg (by decide) (by decide) s t, has_stepsOf_neg (by decide) (by decide) s t⟩

theorem near_table_sym (s t : Sq) : ((kingAttack s).has t = (kingAttack t).has s)
    ∧ ((knightAttack s).has t = (knightAttack t).has s) := by
  obtain ⟨h1, h2, _⟩ := near_sym_sq s t
  obtain ⟨g1, g2, _⟩ := near_check_sq s
  exact ⟨by rw [h1, g1, has_stepsOf], by rw [h2, g2, has_stepsOf]⟩

/-- the attack sets are geometry plus free path; for the queen no pair is aligned both ways, so her one test is the union
of the two line tests -/
theorem pieceAttack_has (p : Piece) (hp : p ≠ .pawn) (s d : Sq) (all : BB) :
    (pieceAttack p s all).has d = (pieceGeom p s d && pieceClear p s d all) := by
  have hb := Line.bishop.attack_has_from s d all
  have hr := Line.rook.attack_has_from s d all
  cases p
  · exact absurd rfl hp
  · simp [pieceAttack, pieceGeom, pieceClear]
  · simp [pieceAttack, pieceGeom, pieceClear]
  · exact hb
  · exact hr
  · show (bishopAttack s all ||| rookAttack s all).has d = ((isBishopValid s d || isRookValid s d) && isQueenSemilegal s d all)
    rw [BB.has_or, show (bishopAttack s all).has d = _ from hb, show (rookAttack s all).has d = _ from hr]
    unfold isQueenSemilegal
    cases hv : isBishopValid s d <;> cases hw : isRookValid s d <;> simp [Line.bishop, Line.rook, hv, hw]
    exact absurd ⟨hv, hw⟩ (not_both_lines s d)

/-- every piece attacks back along its own move -/
theorem pieceAttack_symm (p : Piece) (s d : Sq) (all : BB) : (pieceAttack p d all).has s = (pieceAttack p s all).has d := by
  have hb : (bishopAttack d all).has s = (bishopAttack s all).has d := Bool.eq_iff_iff.mpr (Line.bishop.attack_symm d s all)
  have hr : (rookAttack d all).has s = (rookAttack s all).has d := Bool.eq_iff_iff.mpr (Line.rook.attack_symm d s all)
  cases p <;> simp only [pieceAttack, BB.has_zero, BB.has_or]
  · exact (near_table_sym d s).1
  · exact (near_table_sym d s).2
  · exact hb
  · exact hr
  · rw [hb, hr]

theorem get_abs (r : RawBoard) (s : Sq) : (abs r).get s = absCell (r.get s) := by
  simp [Spec.Pos.get, abs, RawBoard.get]

theorem absCell_mk (c : Color) (p : Piece) : absCell (Cell.mk c p) = some ⟨c, p⟩ := by
  cases c <;> cases p <;> rfl

theorem absCell_eq_some (x : Cell) (c : Color) (p : Piece) : absCell x = some ⟨c, p⟩ ↔ x = Cell.mk c p := by
  revert x; cases c <;> cases p <;> decide

theorem cell_isNone : ∀ x : Cell, (absCell x).isNone = true ↔ x = Cell.empty := by decide
theorem cell_enemy (c : Color) : ∀ x : Cell, ((absCell x).any (fun m => m.color != c) = true) ↔ x.color = some c.inv := by
  cases c <;> decide
theorem cell_free (c : Color) : ∀ x : Cell, (!(absCell x).any (fun m => m.color == c)) = true ↔ x.color ≠ some c := by
  cases c <;> decide

theorem absCell_empty : absCell Cell.empty = none := by decide

theorem isSome_absCell (x : Cell) : (absCell x).isSome = decide (x ≠ Cell.empty) := by revert x; decide

theorem isSome_get_abs (b : Board) (t : Sq) : ((abs b.r).get t).isSome = (b.get t).isOcc := by
  rw [get_abs, isSome_absCell]
  show _ = (b.r.get t).isOcc
  generalize b.r.get t = x
  revert x; decide

theorem any_color (x : Cell) (c : Color) : (absCell x).any (fun m => m.color == c) = decide (x.color = some c) := by
  revert x; cases c <;> decide
theorem any_pawn (x : Cell) : (absCell x).any (fun m => m.piece == .pawn)
    = (decide (x = Cell.mk .white .pawn) || decide (x = Cell.mk .black .pawn)) := by
  revert x; decide

theorem get_abs_beq (r : RawBoard) (x : Sq) (c : Color) (p : Piece) :
    ((abs r).get x == some (⟨c, p⟩ : Spec.Man)) = decide (r.get x = Cell.mk c p) := by
  rw [get_abs, Bool.eq_iff_iff, beq_iff_eq, decide_eq_true_eq]
  exact absCell_eq_some _ c p

theorem abs_rights_has (r : Rights) (c : Color) (s : Side) : (absRights r).has c s = rHas r c s := by
  cases c <;> cases s <;> rfl

@[simp] theorem abs_ep (r : RawBoard) : (abs r).ep = r.ep := rfl
@[simp] theorem abs_side (r : RawBoard) : (abs r).side = r.side := rfl
@[simp] theorem abs_half (r : RawBoard) : (abs r).half = r.mc := rfl
@[simp] theorem abs_full (r : RawBoard) : (abs r).full = r.mn := rfl
theorem abs_rights (r : RawBoard) : (abs r).rights = absRights r.castling := rfl
theorem abs_board (r : RawBoard) : (abs r).board = Tab.ofFn fun s => absCell (r.cells.get s) := rfl

theorem occ_abs (b : Board) (hb : Consistent b) (x : Sq) : (abs b.r).occ x = b.all.has x := by
  rw [all_has b hb, Spec.Pos.occ, get_abs, isSome_absCell]
  rfl

theorem piece2_has (b : Board) (hb : Consistent b) (c : Color) (p : Piece) (s : Sq) :
    (b.piece2 c p).has s = decide (b.get s = Cell.mk c p) := by
  rw [consistent_iff'] at hb
  obtain ⟨_, _, _, hp⟩ := hb
  unfold Board.piece2
  rw [hp]
  have : (Cell.mk c p).val ≠ 0 := fun e => mk_ne_zero c p (Fin.ext e)
  simp [this]

/-- slider attack sets in terms of the specification's ray walk on the position -/
theorem Line.has_abs (L : Line) (b : Board) (hb : Consistent b) (t s : Sq) :
    (L.attack t b.all).has s = decide (t ∈ Spec.slide L.dirs (abs b.r).occ s) := by
  have hocc : (fun x => b.all.has x) = (abs b.r).occ := by funext x; exact (occ_abs b hb x).symm
  rw [Bool.eq_iff_iff, L.attack_symm, L.attack_iff, hocc, decide_eq_true_eq]

theorem decide_slide_append (d1 d2 : List (Int × Int)) (occ : Sq → Bool) (s t : Sq) :
    decide (t ∈ Spec.slide (d1 ++ d2) occ s) = (decide (t ∈ Spec.slide d1 occ s) || decide (t ∈ Spec.slide d2 occ s)) := by
  rw [← Bool.decide_or]
  apply decide_eq_decide.mpr
  simp [Spec.slide, List.flatMap_append]

theorem piece2_has_abs (b : Board) (hb : Consistent b) (c : Color) (p : Piece) (s : Sq) :
    (b.piece2 c p).has s = decide (absCell (b.get s) = some ⟨c, p⟩) := by
  rw [piece2_has b hb]
  exact decide_eq_decide.mpr (absCell_eq_some _ c p).symm

/-- C16: the attackers query returns exactly the men of that colour that attack the square -/
theorem cellAttackers_has (b : Board) (hb : Consistent b) (t : Sq) (c : Color) (s : Sq) :
    (cellAttackers b t c).has s =
      (((abs b.r).get s).any (fun m => m.color == c) && Spec.attacks (abs b.r) s t) := by
  have hr : ∀ t s, (rookAttack t b.all).has s = decide (t ∈ Spec.slide Spec.rookDirs (abs b.r).occ s) :=
    Line.rook.has_abs b hb
  have hd : ∀ t s, (bishopAttack t b.all).has s = decide (t ∈ Spec.slide Spec.bishopDirs (abs b.r).occ s) :=
    Line.bishop.has_abs b hb
  unfold cellAttackers Board.pieceDiag Board.pieceLine
  simp only [BB.has_or, BB.has_and, piece2_has_abs b hb, hr, hd]
  obtain ⟨hk, hn, hpb, hpw⟩ := near_sym_sq s t
  rw [hk, hn]
  unfold Spec.attacks
  rw [get_abs]
  show _ = _
  have hg : b.r.get s = b.get s := rfl
  rw [hg]
  generalize absCell (b.get s) = m
  cases m with
  | none => simp
  | some m =>
    obtain ⟨mc, mp⟩ := m
    cases c <;> cases mc <;> cases mp <;>
      simp [Color.inv, hpb, hpw, Spec.dirsOf, decide_slide_append]

/-- the Boolean query is the non-emptiness of the attackers set (same five terms) -/
theorem isCellAttacked_eq (b : Board) (t : Sq) (c : Color) :
    isCellAttacked b t c = (cellAttackers b t c).nonEmpty := by
  unfold isCellAttacked cellAttackers
  simp only [nonEmpty_or]
  cases (b.piece2 c Piece.pawn &&& pawnAttack c.inv t).nonEmpty <;>
  cases (b.piece2 c Piece.king &&& kingAttack t).nonEmpty <;>
  cases (b.piece2 c Piece.knight &&& knightAttack t).nonEmpty <;> simp

theorem isCellAttacked_iff (b : Board) (hb : Consistent b) (t : Sq) (c : Color) :
    isCellAttacked b t c = Spec.attackedBy (abs b.r) t c := by
  rw [isCellAttacked_eq, Bool.eq_iff_iff, nonEmpty_iff]
  simp only [Spec.attackedBy, Spec.attackers, Spec.allSq, cellAttackers_has b hb, Bool.not_eq_true',
    List.isEmpty_eq_false_iff_exists_mem, List.mem_filter, List.mem_finRange, true_and]

theorem kingPos_eq (b : Board) (hb : Consistent b) (c : Color) : b.kingPos? c = Spec.kingSq (abs b.r) c := by
  unfold Board.kingPos? BB.first? Spec.kingSq Spec.kingSqs Spec.allSq Sq.all
  rw [List.head?_filter]
  have hf : (fun s => (b.piece2 c Piece.king).has s)
      = (fun s => (abs b.r).get s == some ({ color := c, piece := Piece.king } : Spec.Man)) := by
    funext s
    rw [piece2_has_abs b hb, get_abs]
    show _ = (absCell (b.get s) == _)
    generalize absCell (b.get s) = m
    cases h : (m == some ({ color := c, piece := Piece.king } : Spec.Man)) <;> simp_all
  rw [hf]

/-- `inCheck` of the rules through the attack query, given where `king_pos` finds that king -/
theorem inCheck_of_kingPos (b : Board) (hb : Consistent b) (c : Color) (k : Sq) (h : b.kingPos? c = some k) :
    Spec.inCheck (abs b.r) c = isCellAttacked b k c.inv := by
  unfold Spec.inCheck
  rw [← kingPos_eq b hb, h, Option.any_some, isCellAttacked_iff b hb]

theorem isCheck_eq (b : Board) (hb : Consistent b) :
    isCheck? b = (Spec.kingSq (abs b.r) b.r.side).map fun k => Spec.attackedBy (abs b.r) k b.r.side.inv := by
  unfold isCheck?
  rw [kingPos_eq b hb]
  cases Spec.kingSq (abs b.r) b.r.side with
  | none => rfl
  | some k => simp [isCellAttacked_iff b hb]

theorem isOpponentKingAttacked_eq (b : Board) (hb : Consistent b) :
    isOpponentKingAttacked? b =
      (Spec.kingSq (abs b.r) b.r.side.inv).map fun k => Spec.attackedBy (abs b.r) k b.r.side := by
  unfold isOpponentKingAttacked?
  rw [kingPos_eq b hb]
  cases Spec.kingSq (abs b.r) b.r.side.inv with
  | none => rfl
  | some k => simp [isCellAttacked_iff b hb]

theorem checkers_eq (b : Board) (hb : Consistent b) (s : Sq) :
    (checkers? b).map (fun bb => bb.has s) =
      (Spec.kingSq (abs b.r) b.r.side).map fun k =>
        (((abs b.r).get s).any (fun m => m.color == b.r.side.inv) && Spec.attacks (abs b.r) s k) := by
  unfold checkers?
  rw [kingPos_eq b hb]
  cases Spec.kingSq (abs b.r) b.r.side with
  | none => rfl
  | some k => simp [cellAttackers_has b hb]

/-- boards with a king of each colour (true of every board from the validation gate) -/
def HasKings (b : Board) : Prop := ∀ c, (b.kingPos? c).isSome = true

theorem HasKings.kingPos {b : Board} (hk : HasKings b) (c : Color) : ∃ k, b.kingPos? c = some k :=
  Option.isSome_iff_exists.mp (hk c)

theorem isCheck_some (b : Board) (hk : HasKings b) : ∃ v, isCheck? b = some v := by
  obtain ⟨k, h⟩ := hk.kingPos b.r.side
  exact ⟨_, by unfold isCheck?; rw [h]⟩

theorem mkChecker_some (b : Board) (hk : HasKings b) (pre : Pre) : ∃ ck, mkChecker? b pre = some ck := by
  obtain ⟨k, h⟩ := hk.kingPos b.r.side
  exact ⟨_, by unfold mkChecker?; rw [h]⟩

theorem defaultChecker_some (b : Board) (hk : HasKings b) : ∃ ck, defaultChecker? b = some ck := by
  obtain ⟨v, hv⟩ := isCheck_some b hk
  obtain ⟨k, h⟩ := hk.kingPos b.r.side
  unfold defaultChecker? defaultPre?
  rw [hv]
  cases v
  · simp only [h]; exact mkChecker_some b hk _
  · exact mkChecker_some b hk _

end Owl.Lemmas
