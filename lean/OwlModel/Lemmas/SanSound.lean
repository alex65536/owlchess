/-
C09 (input, soundness): on a valid position `san::Data::into_move` does not panic and a move it returns is legal and
agrees with the text (`sanIntoMove_post`, one walk through its branches; `san_sound`); for the two forms resolved by
search ("Nbd2", "ed") the result is exactly the resolution of "legal and agrees" (`san_simple_resolves`,
`san_short_resolves`). The SAN push paths are make-likes in the sense of C13 and cannot
panic (`makeSanMove_ok`, `makeSanStr_ok`, `makeSan_valid`, `makeSan_no_trap`).
-/
import OwlModel.Lemmas.ChainInv
import OwlModel.Props.C01
namespace Owl.Props.C09
open Owl Owl.Impl Owl.Lemmas Owl.Props

/-- `AmbigSearcher::push` after the source filter -/
def push1 (st : SearchState) (mv : Move) : SearchState :=
  match st with
  | .empty => .found mv
  | .found mv2 => .ambiguity mv mv2
  | s@(.ambiguity _ _) => s

/-- the searcher's state as a function of the candidates that pass the source filter, in order -/
def searchOf : List Move → SearchState
  | [] => .empty
  | [m] => .found m
  | b :: a :: _ => .ambiguity a b

theorem fold_filter (srcs : BB) (l : List Move) : ∀ st,
    l.foldl (searchPush srcs) st = (l.filter fun x => srcs.has x.src).foldl push1 st := by
  induction l with
  | nil => intro st; rfl
  | cons x xs ih =>
    intro st
    rw [List.foldl_cons, List.filter_cons]
    cases h : srcs.has x.src
    · simp only [Bool.false_eq_true, if_false]
      rw [← ih]
      congr 1
      unfold searchPush; simp [h]
    · simp only [if_true, List.foldl_cons]
      rw [← ih]
      congr 1
      unfold searchPush push1; simp only [h, Bool.not_true, Bool.false_eq_true, if_false]
      cases st <;> rfl

theorem fold_ambig (l : List Move) (a b : Move) : l.foldl push1 (.ambiguity a b) = .ambiguity a b := by
  induction l with
  | nil => rfl
  | cons x xs ih => rw [List.foldl_cons]; exact ih

theorem fold_searchOf (l : List Move) : l.foldl push1 .empty = searchOf l := by
  cases l with
  | nil => rfl
  | cons b t =>
    cases t with
    | nil => rfl
    | cons a r => exact fold_ambig r a b

theorem search_state (srcs : BB) (l : List Move) :
    l.foldl (searchPush srcs) .empty = searchOf (l.filter fun x => srcs.has x.src) := by
  rw [fold_filter, fold_searchOf]

theorem searchOf_result (fl : List Move) :
    (fl = [] ∧ searchResult (searchOf fl) = .error .notFound)
    ∨ (∃ m, fl = [m] ∧ searchResult (searchOf fl) = .ok m)
    ∨ (∃ b a r, fl = b :: a :: r ∧ searchResult (searchOf fl) = .error (.ambiguity a b)) := by
  match fl with
  | [] => exact .inl ⟨rfl, rfl⟩
  | [m] => exact .inr (.inl ⟨m, rfl, rfl⟩)
  | b :: a :: r => exact .inr (.inr ⟨b, a, r, rfl, rfl⟩)

/-- C09 (search): the searcher answers `m` iff `m` is the only candidate (with multiplicity) that passes the source
filter, "not found" iff there is none, and an ambiguity (naming the first two) iff there are at least two -/
theorem search_spec (srcs : BB) (l : List Move) :
    (∀ m, searchResult (l.foldl (searchPush srcs) .empty) = .ok m ↔ (l.filter fun x => srcs.has x.src) = [m])
    ∧ (searchResult (l.foldl (searchPush srcs) .empty) = .error .notFound ↔ (l.filter fun x => srcs.has x.src) = [])
    ∧ (∀ a b, searchResult (l.foldl (searchPush srcs) .empty) = .error (.ambiguity a b) ↔
        ∃ rest, (l.filter fun x => srcs.has x.src) = b :: a :: rest)
    ∧ ((∃ a b, searchResult (l.foldl (searchPush srcs) .empty) = .error (.ambiguity a b)) ↔
        2 ≤ (l.filter fun x => srcs.has x.src).length)
    ∧ (∀ e, searchResult (l.foldl (searchPush srcs) .empty) = .error e → e = .notFound ∨ ∃ a b, e = .ambiguity a b) := by
  rw [search_state]
  -- in each of the three cases every clause compares constructors
  rcases searchOf_result (l.filter fun x => srcs.has x.src) with ⟨hl, hr⟩ | ⟨m, hl, hr⟩ | ⟨y, x, r, hl, hr⟩ <;>
    rw [hr, hl] <;> simp
  exact fun a b => and_comm

theorem searcherSrcs_has (file rank : Option (Fin 8)) (s : Sq) :
    (searcherSrcs file rank).has s = (file.all (· = s.file) && rank.all (· = s.rank)) := by
  unfold searcherSrcs
  cases file <;> cases rank <;>
    simp only [BB.has_and, BB.has_allOnes, fileBB_has, rankBB_has, Option.all_none, Option.all_some, Bool.true_and,
      Bool.and_true, Bool.and_self] <;>
    simp [eq_comm]

/-- well-formed, semilegal and accepted by `is_legal_unchecked`: what the checked API accepts -/
def Legal (b : Board) (mv : Move) : Prop :=
  mv.isWellFormed = true ∧ isSemilegal b mv = true ∧ isLegalUnchecked? b mv = some true

theorem Legal.step {b : Board} {mv : Move} (h : Legal b mv) : C13.LegalStep b mv := ⟨h.1, h.2.1, h.2.2⟩
theorem Legal.of_step {b : Board} {mv : Move} (h : C13.LegalStep b mv) : Legal b mv := ⟨h.wf, h.sl, h.legal⟩

/-- the candidates of `san_candidates` before the legal filter: the men of that kind whose attack set, seen from `dst`,
holds them -/
theorem mem_cands (b : Board) (hv : Valid b) (piece : Piece) (hp : piece ≠ .pawn) (dst : Sq)
    (hown : ¬ (b.get dst).color = some b.r.side) (mv : Move) :
    mv ∈ ((pieceAttack piece dst b.all &&& b.piece2 b.r.side piece).toList.map
      fun src => mkMove b.r.side .simple piece src dst) ↔
    (SL b mv ∧ ∃ s, mv = mkMove b.r.side .simple piece s dst) := by
  simp only [List.mem_map, BB.mem_toList, BB.has_and, Bool.and_eq_true, piece2_has b hv.shape.cons, decide_eq_true_eq]
  constructor
  · rintro ⟨s, ⟨h1, h2⟩, rfl⟩
    rw [pieceAttack_symm] at h1
    exact ⟨(sl_piece b piece hp s dst).mpr ⟨h2, h1, hown⟩, s, rfl⟩
  · rintro ⟨hsl, s, rfl⟩
    obtain ⟨g1, g2, _⟩ := (sl_piece b piece hp s dst).mp hsl
    rw [← pieceAttack_symm] at g2
    exact ⟨s, ⟨g2, g1⟩, rfl⟩

/-- C09 (candidates): on a valid board `san_candidates` (behind the legal filter) does not panic and returns, each
once, exactly the legal simple moves of that piece to `dst` -/
theorem sanCandidates_spec (b : Board) (hv : Valid b) (piece : Piece) (hp : piece ≠ .pawn) (dst : Sq) :
    ∃ l, sanCandidates? b piece dst = some l ∧ l.Nodup ∧
      ∀ mv, mv ∈ l ↔ ((∃ s, mv = mkMove b.r.side .simple piece s dst) ∧ Legal b mv) := by
  by_cases hown : (b.get dst).color = some b.r.side
  · obtain ⟨ck, hck, _⟩ := default_checker b hv
    unfold sanCandidates?
    rw [hck]
    simp only
    rw [if_pos hown]
    refine ⟨[], rfl, List.nodup_nil, ?_⟩
    intro mv
    simp only [List.not_mem_nil, false_iff]
    rintro ⟨⟨s, rfl⟩, hwf, hsl, _⟩
    exact ((sl_piece b piece hp s dst).mp ⟨hwf, hsl⟩).2.2 hown
  · obtain ⟨ck, hck, h1, h2⟩ := legalFilter_spec b hv _
      (nodup_map_of_inj _ _ (toList_nodup _) (fun a b e => (mkMove_inj e).2.2.1)) _ (mem_cands b hv piece hp dst hown)
    unfold sanCandidates?
    rw [hck]
    simp only
    rw [if_neg hown]
    cases piece
    · exact absurd rfl hp
    all_goals exact ⟨_, rfl, h1, fun mv => (h2 mv).trans and_comm⟩

/-- does the move's kind agree with the written promotion -/
def PromoOK (promote : Option Piece) (k : Kind) : Prop :=
  match promote with
  | none => k.promote = none
  | some p => k = promoteKind p

theorem promoteKind_promote (p : Piece) (h : p = .knight ∨ p = .bishop ∨ p = .rook ∨ p = .queen) :
    (promoteKind p).promote = some p := Owl.Lemmas.promoteKind_promote p h

theorem promoteKind_is (p : Piece) : promoteKind p = .promN ∨ promoteKind p = .promB ∨ promoteKind p = .promR
    ∨ promoteKind p = .promQ := by
  cases p <;> simp [promoteKind]

theorem cap_geo (c : Color) (d : Sq) :
    ((d.rank ≠ behindRank c ∧ d.file ≠ 7) → (addU d (-(leftDelta c))).file.val = d.file.val + 1)
    ∧ ((d.rank ≠ behindRank c ∧ d.file ≠ 0) → (addU d (-(rightDelta c))).file.val + 1 = d.file.val) := by
  have eL := neg_leftDelta_eq c
  have eR := neg_rightDelta_eq c
  constructor
  · intro h
    have g := (behind_guard c d 1 (.inl rfl)).mpr ⟨h.1, fun _ => h.2, fun h' => absurd h' (by decide)⟩
    have := (addU_coords d 1 (-Spec.forward c) g.1 g.2).1
    rw [eL]; omega
  · intro h
    have g := (behind_guard c d (-1) (.inr (.inl rfl))).mpr ⟨h.1, fun h' => absurd h' (by decide), fun _ => h.2⟩
    have := (addU_coords d (-1) (-Spec.forward c) g.1 g.2).1
    rw [eR]; omega

theorem ep_geo (c : Color) : ∀ p : Sq, p.rank = epSrcRank c →
    (addU p (forwardDelta c)).file = p.file
    ∧ (p.file ≠ fileA → (addU p (-1)).file.val + 1 = p.file.val)
    ∧ (p.file ≠ fileH → (addU p 1).file.val = p.file.val + 1) := by
  cases c <;> decide

/-- the kind `san_pawn_capture_candidates` gives to ordinary captures -/
def capKind (promote : Option Piece) : Kind := match promote with | some p => promoteKind p | none => .simple

def capRank (promote : Option Piece) (c : Color) (s : Sq) : Prop :=
  match promote with | some _ => s.rank = promoteSrcRank c | none => s.rank ≠ promoteSrcRank c

instance (promote : Option Piece) (c : Color) (s : Sq) : Decidable (capRank promote c s) := by
  unfold capRank; cases promote <;> exact inferInstance

theorem pawn_cap_kind (b : Board) (hv : Valid b) (promote : Option Piece) (s d : Sq) :
    (SL b (mkMove b.r.side (capKind promote) .pawn s d) ∧ s.file ≠ d.file) ↔
      (b.get s = Cell.mk b.r.side .pawn ∧ capRank promote b.r.side s ∧ (b.get d).color = some b.r.side.inv
        ∧ (((d.rank ≠ behindRank b.r.side ∧ d.file ≠ 7) ∧ s = addU d (-(leftDelta b.r.side)))
          ∨ ((d.rank ≠ behindRank b.r.side ∧ d.file ≠ 0) ∧ s = addU d (-(rightDelta b.r.side))))) := by
  cases promote with
  | none => exact pawn_cap_sq b hv false _ rfl s d
  | some p => exact pawn_cap_sq b hv true _ ((isPromo_iff _).mpr (promoteKind_is p)) s d

theorem capMask_has (c : Color) (promote : Option Piece) (s : Sq) :
    ((match promote with
        | some _ => rankBB (promoteSrcRank c) | none => ~~~ rankBB (promoteSrcRank c)).has s = true) ↔
      capRank promote c s := by
  cases promote <;> simp [capRank, rankBB_has]

/-- the ordinary-capture part of `san_pawn_capture_candidates`, before the legal filter: the pawns of file `src` on
the rank the promotion asks for, advanced to the left if `dst` is the file to the left, to the right if to the right -/
def capCands (b : Board) (src dst : Fin 8) (promote : Option Piece) : List Move :=
  let pawns := b.piece2 b.r.side .pawn &&& (match promote with
    | some _ => rankBB (promoteSrcRank b.r.side) | none => ~~~ rankBB (promoteSrcRank b.r.side)) &&& fileBB src
  (if src.val = dst.val + 1 then
      (advanceLeft b.r.side pawns &&& b.color b.r.side.inv).toList.map fun d =>
        mkMove b.r.side (capKind promote) .pawn (addU d (-(leftDelta b.r.side))) d
    else [])
  ++ (if src.val + 1 = dst.val then
      (advanceRight b.r.side pawns &&& b.color b.r.side.inv).toList.map fun d =>
        mkMove b.r.side (capKind promote) .pawn (addU d (-(rightDelta b.r.side))) d
    else [])

theorem mem_capCands (b : Board) (hv : Valid b) (src dst : Fin 8) (promote : Option Piece) (mv : Move) :
    mv ∈ capCands b src dst promote ↔
    (SL b mv ∧ mv.cell = Cell.mk b.r.side .pawn ∧ mv.kind = capKind promote ∧ mv.src.file = src ∧ mv.dst.file = dst
      ∧ mv.src.file ≠ mv.dst.file) := by
  have hb := hv.shape.cons
  unfold capCands
  simp only [List.mem_append, List.mem_ite_nil_right, List.mem_map, BB.mem_toList, BB.has_and, advanceLeft_has, advanceRight_has,
    Bool.and_eq_true, decide_eq_true_eq, capMask_has, piece2_has b hb, fileBB_has, color_has b hb, and_assoc]
  constructor
  · rintro (⟨hP, d, g1, g2, p1, p2, p3, p4, rfl⟩ | ⟨hP, d, g1, g2, p1, p2, p3, p4, rfl⟩)
    · obtain ⟨k1, k2⟩ := (pawn_cap_kind b hv promote _ d).mpr ⟨p1, p2, p4, Or.inl ⟨⟨g1, g2⟩, rfl⟩⟩
      have hg := (cap_geo b.r.side d).1 ⟨g1, g2⟩
      refine ⟨k1, rfl, rfl, p3, ?_, k2⟩
      show d.file = dst
      apply Fin.ext
      have : (addU d (-(leftDelta b.r.side))).file.val = src.val := by rw [p3]
      omega
    · obtain ⟨k1, k2⟩ := (pawn_cap_kind b hv promote _ d).mpr ⟨p1, p2, p4, Or.inr ⟨⟨g1, g2⟩, rfl⟩⟩
      have hg := (cap_geo b.r.side d).2 ⟨g1, g2⟩
      refine ⟨k1, rfl, rfl, p3, ?_, k2⟩
      show d.file = dst
      apply Fin.ext
      have : (addU d (-(rightDelta b.r.side))).file.val = src.val := by rw [p3]
      omega
  · rintro ⟨hsl, hcell, hk, hf1, hf2, hne⟩
    have hmv := mkMove_eta mv _ _ hcell
    rw [hk] at hmv
    have hsl' := hsl
    rw [hmv] at hsl'
    obtain ⟨p1, p2, p4, hgeo⟩ := (pawn_cap_kind b hv promote mv.src mv.dst).mp ⟨hsl', hne⟩
    rcases hgeo with ⟨g, e⟩ | ⟨g, e⟩
    · left
      have hg := (cap_geo b.r.side mv.dst).1 g
      rw [← e, hf1, hf2] at hg
      exact ⟨hg, mv.dst, g.1, g.2, e ▸ p1, e ▸ p2, e ▸ hf1, p4, e ▸ hmv.symm⟩
    · right
      have hg := (cap_geo b.r.side mv.dst).2 g
      rw [← e, hf1, hf2] at hg
      exact ⟨hg, mv.dst, g.1, g.2, e ▸ p1, e ▸ p2, e ▸ hf1, p4, e ▸ hmv.symm⟩

/-- the en-passant part of `san_pawn_capture_candidates`, before the legal filter -/
def epCands (b : Board) (src dst : Fin 8) (promote : Option Piece) : List Move :=
  match b.r.ep with
  | none => []
  | some ep =>
    if ep.file = dst && promote.isNone then
      (if src.val + 1 = dst.val && b.get (addU ep (-1)) = Cell.mk b.r.side .pawn then
        [mkMove b.r.side .ep .pawn (addU ep (-1)) (addU ep (forwardDelta b.r.side))] else [])
      ++ (if src.val = dst.val + 1 && b.get (addU ep 1) = Cell.mk b.r.side .pawn then
        [mkMove b.r.side .ep .pawn (addU ep 1) (addU ep (forwardDelta b.r.side))] else [])
    else []

theorem mem_epCands (b : Board) (hv : Valid b) (src dst : Fin 8) (promote : Option Piece) (mv : Move) :
    mv ∈ epCands b src dst promote ↔
      (promote = none ∧ (SL b mv ∧ mv.kind = .ep) ∧ mv.src.file = src ∧ mv.dst.file = dst) := by
  rw [← mem_ep_iff b hv]
  unfold epCands genPawnEnpassant
  cases hep : b.r.ep with
  | none => simp
  | some p =>
    obtain ⟨hrank, _, _⟩ := hv.shape.ep p hep
    obtain ⟨g1, g2, g3⟩ := ep_geo b.r.side p hrank
    have hA0 : fileA.val = 0 := rfl
    have hH7 : fileH.val = 7 := rfl
    simp only [List.mem_append, List.mem_ite_nil_right, List.mem_singleton, Bool.and_eq_true, decide_eq_true_eq,
      ne_eq, Option.isNone_iff_eq_none]
    constructor
    · rintro ⟨⟨hf, hpn⟩, (⟨⟨h1, h2⟩, rfl⟩ | ⟨⟨h1, h2⟩, rfl⟩)⟩
      · have hA : p.file ≠ fileA := by
          intro e; rw [hf] at e; rw [e] at h1; omega
        refine ⟨hpn, Or.inl ⟨⟨hA, h2⟩, rfl⟩, ?_, ?_⟩
        · show (addU p (-1)).file = src
          apply Fin.ext
          have := g2 hA
          rw [hf] at this
          omega
        · show (addU p (forwardDelta b.r.side)).file = dst
          rw [g1]; exact hf
      · have hH : p.file ≠ fileH := by
          intro e; rw [hf] at e; rw [e] at h1; have := src.isLt; omega
        refine ⟨hpn, Or.inr ⟨⟨hH, h2⟩, rfl⟩, ?_, ?_⟩
        · show (addU p 1).file = src
          apply Fin.ext
          have := g3 hH
          rw [hf] at this
          omega
        · show (addU p (forwardDelta b.r.side)).file = dst
          rw [g1]; exact hf
    · rintro ⟨hpn, (⟨⟨hA, h2⟩, rfl⟩ | ⟨⟨hH, h2⟩, rfl⟩), hs, hd⟩
      · have hd' : p.file = dst := by rw [← g1]; exact hd
        have hs' : (addU p (-1)).file = src := hs
        refine ⟨⟨hd', hpn⟩, Or.inl ⟨⟨?_, h2⟩, rfl⟩⟩
        have := g2 hA
        rw [hs', hd'] at this
        exact this
      · have hd' : p.file = dst := by rw [← g1]; exact hd
        have hs' : (addU p 1).file = src := hs
        refine ⟨⟨hd', hpn⟩, Or.inr ⟨⟨?_, h2⟩, rfl⟩⟩
        have := g3 hH
        rw [hs', hd'] at this
        exact this

/-- what "ed" / "ed=Q" asks of a move: a pawn capture (ordinary or en passant) from file `src` to file `dst` with the
written promotion -/
def PawnCapShort (b : Board) (src dst : Fin 8) (promote : Option Piece) (mv : Move) : Prop :=
  mv.cell = Cell.mk b.r.side .pawn ∧ mv.src.file = src ∧ mv.dst.file = dst ∧ mv.src.file ≠ mv.dst.file
    ∧ PromoOK promote mv.kind

/-- a well-formed semilegal move of a known kind: its man, and the conditions of the kind -/
theorem SL.semi {b : Board} {mv : Move} {k : Kind} (h : SL b mv) (hk : mv.kind = k) :
    ∃ p, mv.cell = Cell.mk b.r.side p ∧ Semi b k p mv.src mv.dst := by
  obtain ⟨p, hc, _, _, _, h⟩ := (sl_iff b mv).mp h
  exact ⟨p, hc, hk ▸ h⟩

theorem mem_capAll (b : Board) (hv : Valid b) (src dst : Fin 8) (promote : Option Piece) (mv : Move) :
    mv ∈ capCands b src dst promote ++ epCands b src dst promote ↔ (SL b mv ∧ PawnCapShort b src dst promote mv) := by
  rw [List.mem_append, mem_capCands b hv, mem_epCands b hv]
  unfold PawnCapShort
  constructor
  · rintro (⟨h1, h2, h3, h4, h5, h6⟩ | ⟨rfl, ⟨h2, h3⟩, h4, h5⟩)
    · refine ⟨h1, h2, h4, h5, h6, ?_⟩
      cases promote with
      | none => show mv.kind.promote = none; rw [h3]; rfl
      | some p => exact h3
    · obtain ⟨p, hc, h⟩ := SL.semi h2 h3
      cases h with
      | promo hk => cases hk
      | ep _ _ _ hdiff => exact ⟨h2, hc, h4, h5, file_ne_of_diff hdiff, show mv.kind.promote = none by rw [h3]; rfl⟩
  · rintro ⟨h1, h2, h4, h5, h6, h7⟩
    obtain ⟨p, hc, h⟩ := SL.semi h1 rfl
    obtain rfl : p = .pawn := (mk_inj (hc.symm.trans h2)).2
    -- a written promotion fixes the kind; without one the kind is read off `Semi`
    cases promote with
    | some q => exact Or.inl ⟨h1, h2, h7, h4, h5, h6⟩
    | none =>
      replace h7 : mv.kind.promote = none := h7
      generalize mv.kind = k at h h7 ⊢
      cases h with
      | piece hg => cases hg
      | pawn => exact Or.inl ⟨h1, h2, rfl, h4, h5, h6⟩
      | promo hp => rw [h7] at hp; cases hp
      | double hf => exact absurd hf h6
      | ep => exact Or.inr ⟨rfl, ⟨h1, rfl⟩, h4, h5⟩

theorem capCands_nodup (b : Board) (src dst : Fin 8) (promote : Option Piece) : (capCands b src dst promote).Nodup := by
  unfold capCands
  rw [List.nodup_append]
  refine ⟨?_, ?_, ?_⟩
  · exact nodup_ite_prop _ _ (nodup_map_of_inj _ _ (toList_nodup _) (fun a b e => (mkMove_inj e).2.2.2))
  · exact nodup_ite_prop _ _ (nodup_map_of_inj _ _ (toList_nodup _) (fun a b e => (mkMove_inj e).2.2.2))
  · intro x hx y hy e
    rw [List.mem_ite_nil_right] at hx hy
    omega

theorem epCands_nodup (b : Board) (src dst : Fin 8) (promote : Option Piece) : (epCands b src dst promote).Nodup := by
  unfold epCands
  cases b.r.ep with
  | none => simp
  | some p =>
    simp only
    apply nodup_ite_prop
    rw [List.nodup_append]
    refine ⟨by split <;> simp, by split <;> simp, ?_⟩
    intro x hx y hy e
    rw [List.mem_ite_nil_right] at hx hy
    simp only [Bool.and_eq_true, decide_eq_true_eq] at hx hy
    omega

/-- C09 (pawn-capture candidates): on a valid board `san_pawn_capture_candidates` (behind the legal filter) does not
panic and returns, each once, exactly the legal pawn captures (ordinary or en passant) from file `src` to file `dst`
with the requested promotion -/
theorem sanPawnCapture_spec (b : Board) (hv : Valid b) (src dst : Fin 8) (promote : Option Piece) :
    ∃ l, sanPawnCaptureCandidates? b src dst promote = some l ∧ l.Nodup ∧
      ∀ mv, mv ∈ l ↔ (Legal b mv ∧ PawnCapShort b src dst promote mv) := by
  have hnd : (capCands b src dst promote ++ epCands b src dst promote).Nodup := by
    rw [List.nodup_append]
    refine ⟨capCands_nodup b src dst promote, epCands_nodup b src dst promote, ?_⟩
    intro x hx y hy e
    subst e
    have h1 := ((mem_capCands b hv src dst promote x).mp hx).2.2.1
    obtain ⟨h2, ⟨_, h3⟩, _⟩ := (mem_epCands b hv src dst promote x).mp hy
    subst h2
    rw [h3] at h1; cases h1
  obtain ⟨ck, hck, h1, h2⟩ := legalFilter_spec b hv _ hnd _ (mem_capAll b hv src dst promote)
  unfold sanPawnCaptureCandidates?
  rw [hck]
  exact ⟨_, rfl, h1, h2⟩

/-- the move agrees with what the SAN text says -/
def Agrees (b : Board) (d : SanData) (mv : Move) : Prop :=
  match d with
  | .uci u => uciIntoMove u b = some mv
  | .castling s => mv = Move.fromCastling b.r.side s
  | .pawnMove dst promote =>
    mv.cell = Cell.mk b.r.side .pawn ∧ mv.dst = dst ∧ mv.src.file = mv.dst.file ∧ PromoOK promote mv.kind
  | .pawnCapture srcFile dst promote =>
    mv.cell = Cell.mk b.r.side .pawn ∧ mv.src.file = srcFile ∧ mv.dst = dst ∧ PromoOK promote mv.kind
  | .pawnCaptureShort src dst promote => PawnCapShort b src dst promote mv
  | .simple piece file rank isCapture dst =>
    mv.kind = .simple ∧ mv.cell = Cell.mk b.r.side piece ∧ mv.dst = dst
      ∧ file.all (· = mv.src.file) = true ∧ rank.all (· = mv.src.rank) = true
      ∧ (isCapture = true → b.get dst ≠ Cell.empty)

theorem validateInto_ok (b : Board) (mv mv' : Move) (h : validateInto b mv = .ok mv') :
    mv' = mv ∧ isSemilegal b mv = true ∧ isLegalUnchecked? b mv = some true := by
  unfold validateInto at h
  split at h
  · rename_i hv
    cases h
    exact ⟨rfl, (validateMove_ok b mv).mp hv⟩
  · cases h
  · cases h

theorem validateInto_legal (b : Board) (mv : Move) (hl : Legal b mv) : validateInto b mv = .ok mv := by
  unfold validateInto
  rw [(validateMove_ok b mv).mpr ⟨hl.2.1, hl.2.2⟩]

theorem fromCastling_wf (c : Color) (s : Side) : (Move.fromCastling c s).isWellFormed = true := by
  cases c <;> cases s <;> decide

theorem sanCandidates_pawn (b : Board) (dst : Sq) (l : List Move) (h : sanCandidates? b .pawn dst = some l) : l = [] := by
  unfold sanCandidates? at h
  split at h
  · cases h
  · simp only at h
    split at h
    · cases h; rfl
    · cases h

theorem promoOK_of_kind (promote : Option Piece) (kind : Kind) (hk : kind.promote = none) :
    PromoOK promote (match promote with | some p => promoteKind p | none => kind) := by
  cases promote with
  | none => exact hk
  | some p => rfl

/-- `r` is the resolution of the description `A`: the move if exactly one move satisfies `A`, an `Ambiguity` naming two
different such moves if several do, and never a panic -/
structure Resolves (r : Res SanIntoErr Move) (A : Move → Prop) : Prop where
  ok_iff : ∀ m, r = .ok m ↔ (A m ∧ ∀ m', A m' → m' = m)
  reported : ∀ m1 m2, m1 ≠ m2 → A m1 → A m2 → ∃ x y, r = .err (.ambiguity x y) ∧ x ≠ y ∧ A x ∧ A y
  no_trap : ∀ w, r ≠ .trap w

/-- how `into_move` turns the searcher's answer into its result -/
def liftSearch (r : Except SanIntoErr Move) : Res SanIntoErr Move :=
  match r with
  | .ok m => .ok m
  | .error e => .err e

theorem Resolves.of_none {r : Res SanIntoErr Move} {A : Move → Prop}
    (hr : r = .err .notFound ∨ r = .err .captureExpected) (hno : ∀ m, ¬ A m) : Resolves r A where
  ok_iff m := ⟨fun h => (by rcases hr with hr | hr <;> rw [hr] at h <;> cases h), fun h => absurd h.1 (hno m)⟩
  reported m1 _ _ h1 _ := absurd h1 (hno m1)
  no_trap w h := by rcases hr with hr | hr <;> rw [hr] at h <;> cases h

/-- what a resolution lets through, in the form of the parser walks -/
theorem Resolves.ensures {r : Res SanIntoErr Move} {A : Move → Prop} (h : Resolves r A) : r.Ensures A := by
  cases hr : r with
  | ok m => exact ((h.ok_iff m).mp hr).1
  | err _ => trivial
  | trap w => exact absurd hr (h.no_trap w)

theorem search_resolves (srcs : BB) (l : List Move) (hl : l.Nodup) (A : Move → Prop)
    (hA : ∀ mv, mv ∈ (l.filter fun x => srcs.has x.src) ↔ A mv) :
    Resolves (liftSearch (searchResult (l.foldl (searchPush srcs) .empty))) A := by
  have hfl : (l.filter fun x => srcs.has x.src).Nodup := List.Pairwise.filter _ hl
  rw [search_state]
  generalize l.filter (fun x => srcs.has x.src) = fl at hA hfl
  -- none, one, or at least two candidates pass the filter
  match fl, hA, hfl with
  | [], hA, _ => exact .of_none (.inl rfl) fun m hm => nomatch (hA m).mpr hm
  | [m], hA, _ =>
    have hm : ∀ m', A m' ↔ m' = m := fun m' => by rw [← hA, List.mem_singleton]
    show Resolves (.ok m) A
    refine ⟨fun m0 => ⟨?_, ?_⟩, fun m1 m2 hne h1 h2 => ?_, fun _ h => nomatch h⟩
    · intro e; cases e; exact ⟨(hm m).mpr rfl, fun m' h => (hm m').mp h⟩
    · rintro ⟨h, _⟩; rw [(hm m0).mp h]
    · exact absurd (((hm m1).mp h1).trans ((hm m2).mp h2).symm) hne
  | y :: x :: r, hA, hfl =>
    have hx : A x := (hA x).mp (by simp)
    have hy : A y := (hA y).mp (by simp)
    have hxy : x ≠ y := fun e => (List.nodup_cons.mp hfl).1 (by rw [e]; simp)
    show Resolves (.err (.ambiguity x y)) A
    exact ⟨fun m0 => ⟨nofun, fun h => absurd ((h.2 x hx).trans (h.2 y hy).symm) hxy⟩,
      fun _ _ _ _ _ => ⟨x, y, rfl, hxy, hx, hy⟩, fun _ h => nomatch h⟩

/-- C09 (pawn capture without rank, "ed"): the result is the resolution of "legal and agrees with the text" -/
theorem san_short_resolves (b : Board) (hv : Valid b) (src dst : Fin 8) (promote : Option Piece) :
    Resolves (sanIntoMove (.pawnCaptureShort src dst promote) b)
      fun m => Legal b m ∧ Agrees b (.pawnCaptureShort src dst promote) m := by
  obtain ⟨l, hc, hnd, hmem⟩ := sanPawnCapture_spec b hv src dst promote
  have hs : sanIntoMove (.pawnCaptureShort src dst promote) b =
      liftSearch (searchResult (l.foldl (searchPush (searcherSrcs none none)) .empty)) := by
    unfold sanIntoMove liftSearch
    simp only [hc]
    generalize searchResult _ = r
    cases r <;> rfl
  rw [hs]
  refine search_resolves _ l hnd _ fun mv => ?_
  rw [List.mem_filter, hmem, searcherSrcs_has]
  simp [Agrees]

theorem simple_shape_iff (c : Color) (piece : Piece) (dst : Sq) (mv : Move) :
    (∃ s, mv = mkMove c .simple piece s dst) ↔ (mv.kind = .simple ∧ mv.cell = Cell.mk c piece ∧ mv.dst = dst) := by
  constructor
  · rintro ⟨s, rfl⟩; exact ⟨rfl, rfl, rfl⟩
  · rintro ⟨h1, h2, h3⟩
    refine ⟨mv.src, ?_⟩
    have := mkMove_eta mv c piece h2
    rw [h1, h3] at this
    exact this

/-- C09 (piece moves, "Nbd2"): the result is the resolution of "legal and agrees with the text" (piece, destination,
origin hints, capture mark); with a capture mark on an empty destination the answer is "capture expected" -/
theorem san_simple_resolves (b : Board) (hv : Valid b) (piece : Piece) (hp : piece ≠ .pawn) (file rank : Option (Fin 8))
    (isCapture : Bool) (dst : Sq) :
    Resolves (sanIntoMove (.simple piece file rank isCapture dst) b)
      fun m => Legal b m ∧ Agrees b (.simple piece file rank isCapture dst) m := by
  obtain ⟨l, hc, hnd, hmem⟩ := sanCandidates_spec b hv piece hp dst
  by_cases hcap : (isCapture && (b.get dst).isFree) = true
  · refine .of_none (Or.inr ?_) ?_
    · unfold sanIntoMove; simp only [hcap, if_true]
    · rw [Bool.and_eq_true] at hcap
      rintro m ⟨_, _, _, _, _, _, h6⟩
      exact h6 hcap.1 (isFree_eq _ hcap.2)
  · have hs : sanIntoMove (.simple piece file rank isCapture dst) b =
        liftSearch (searchResult (l.foldl (searchPush (searcherSrcs file rank)) .empty)) := by
      unfold sanIntoMove liftSearch
      simp only [hcap, hc]
      generalize searchResult _ = r
      cases r <;> rfl
    rw [hs]
    refine search_resolves _ l hnd _ fun mv => ?_
    rw [List.mem_filter, hmem, searcherSrcs_has, simple_shape_iff, Bool.and_eq_true]
    have hcap' : isCapture = true → b.get dst ≠ Cell.empty := fun h1 h2 => hcap (by rw [h1, h2]; rfl)
    exact ⟨fun ⟨⟨⟨h1, h2, h3⟩, h4⟩, h5, h6⟩ => ⟨h4, h1, h2, h3, h5, h6, hcap'⟩,
      fun ⟨h4, h1, h2, h3, h5, h6, _⟩ => ⟨⟨⟨h1, h2, h3⟩, h4⟩, h5, h6⟩⟩

/-- a `Simple` record for a pawn (which the parser never produces) resolves to nothing -/
theorem simple_pawn_not_ok (b : Board) (file rank : Option (Fin 8)) (isCapture : Bool) (dst : Sq) (mv : Move) :
    sanIntoMove (.simple .pawn file rank isCapture dst) b ≠ .ok mv := by
  intro h
  unfold sanIntoMove at h
  simp only at h
  split at h
  · cases h
  · split at h
    · cases h
    · rename_i cands hc
      rw [sanCandidates_pawn b dst cands hc] at h
      simp [searchResult] at h

/-- `validate` lets through exactly what is semilegal and legal, and does not panic with both kings on the board -/
theorem validate_post (b : Board) (hk : HasKings b) (mv : Move) (hwf : mv.isWellFormed = true) :
    (validateInto b mv).Ensures fun m => m = mv ∧ Legal b m := by
  cases hr : validateInto b mv with
  | ok m => obtain ⟨rfl, h1, h2⟩ := validateInto_ok b _ m hr; exact ⟨rfl, hwf, h1, h2⟩
  | err _ => trivial
  | trap w =>
    exfalso
    unfold validateInto at hr
    split at hr
    · cases hr
    · cases hr
    · exact validateMove_no_trap b hk _ _ ‹_›

/-- the last two steps of every direct form: build the move, validate it -/
theorem built_post (b : Board) (hk : HasKings b) (k : Kind) (c : Cell) (s d : Sq) :
    (match Move.new? k c s d with
      | none => Res.err SanIntoErr.create
      | some mv => validateInto b mv).Ensures fun m => m = (⟨k, c, s, d⟩ : Move) ∧ Legal b m := by
  cases hn : Move.new? k c s d with
  | none => trivial
  | some mv =>
    obtain ⟨rfl, hwf⟩ := new?_some _ _ _ _ _ hn
    exact validate_post b hk _ hwf

/-- C09 (soundness) and C12 (no panic) for `into_move`, in one walk: on a valid board the result is never a panic (the
panic sites are `Coord::add` behind a pawn's destination, in range off the first rank, and the checker's king lookup),
and a move it returns is legal and agrees with the text -/
theorem sanIntoMove_post (b : Board) (hv : Valid b) (d : SanData) (hd : d.ParserShape) :
    (sanIntoMove d b).Ensures fun mv => Legal b mv ∧ Agrees b d mv := by
  have hk := valid_hasKings b hv
  cases d with
  | uci u =>
    unfold sanIntoMove
    dsimp only
    split
    · trivial
    · rename_i mv0 hu
      exact (validate_post b hk mv0 (C02.uciIntoMove_wf b u _ hu)).mono fun m ⟨e, hl⟩ => ⟨hl, e ▸ hu⟩
  | castling s => exact (validate_post b hk _ (fromCastling_wf b.r.side s)).mono fun m ⟨e, hl⟩ => ⟨hl, e⟩
  | pawnMove dst promote =>
    unfold sanIntoMove
    refine .guard fun hr => ?_
    obtain ⟨src0, hadd⟩ := Option.isSome_iff_exists.mp (pawn_back_site dst b.r.side hr)
    have hf0 : src0.file = dst.file := ((back_iff b.r.side dst.file dst src0).mp (by rw [Sq.mk_file_rank]; exact hadd)).1
    simp only [hadd]
    by_cases hocc : (b.get src0).isOcc = true
    · simp only [hocc, Bool.not_true, Bool.false_eq_true, if_false]
      exact (built_post b hk _ _ _ _).mono fun m ⟨e, hl⟩ => e ▸ ⟨e ▸ hl, rfl, rfl, hf0, promoOK_of_kind promote .simple rfl⟩
    · simp only [hocc, Bool.not_false, if_true]
      exact (built_post b hk _ _ _ _).mono fun m ⟨e, hl⟩ =>
        e ▸ ⟨e ▸ hl, rfl, rfl, Sq.file_mk _ _, promoOK_of_kind promote .double rfl⟩
  | pawnCapture srcFile dst promote =>
    unfold sanIntoMove
    refine .guard fun hr => ?_
    dsimp only
    generalize hkind : (if some dst = b.r.epDest then Kind.ep else Kind.simple) = kind
    have hkp : kind.promote = none := by subst hkind; split <;> rfl
    refine .guard fun _ => ?_
    obtain ⟨src, hadd⟩ := Option.isSome_iff_exists.mp
      (pawn_back_site (Sq.mk srcFile dst.rank) b.r.side (by rw [Sq.rank_mk]; exact hr))
    simp only [hadd]
    exact (built_post b hk _ _ _ _).mono fun m ⟨e, hl⟩ =>
      e ▸ ⟨e ▸ hl, rfl, ((back_iff _ _ _ _).mp hadd).1, rfl, promoOK_of_kind promote _ hkp⟩
  | pawnCaptureShort src dst promote => exact (san_short_resolves b hv src dst promote).ensures
  | simple piece file rank isCapture dst => exact (san_simple_resolves b hv piece hd file rank isCapture dst).ensures

/-- SAN text resolved against a valid position cannot panic: the parser's value has the parser's shape -/
theorem moveFromSan_no_trap (b : Board) (hv : Valid b) (s : Bytes) (w : String) : moveFromSan s b ≠ .trap w := by
  intro h
  unfold moveFromSan at h
  split at h
  · exact (parseSan_post s).no_trap _ ‹_›
  · cases h
  · rename_i sm hsm
    split at h
    · exact (sanIntoMove_post b hv _ (parserShape_of_parsed _ ((parseSan_post s).of_ok hsm))).no_trap _ ‹_›
    · cases h
    · cases h

/-- C09 (soundness): whatever `into_move` returns is a legal move of the position that agrees with the text -/
theorem san_sound (b : Board) (hv : Valid b) (d : SanData) (mv : Move) (h : sanIntoMove d b = .ok mv) :
    (mv.isWellFormed = true ∧ isSemilegal b mv = true ∧ isLegalUnchecked? b mv = some true) ∧ Agrees b d mv := by
  by_cases hd : d.ParserShape
  · exact (sanIntoMove_post b hv d hd).of_ok h
  · cases d with
    | simple piece file rank isCapture dst =>
      obtain rfl : piece = .pawn := Decidable.of_not_not hd
      exact absurd h (simple_pawn_not_ok b file rank isCapture dst mv)
    | _ => exact absurd trivial hd

theorem san_sound_step (b : Board) (hv : Valid b) (d : SanData) (mv : Move) (h : sanIntoMove d b = .ok mv) :
    C13.LegalStep b mv := Legal.step (san_sound b hv d mv h).1

/-- C09 for text input: `Move::from_san` returns only legal moves that agree with the parsed text -/
theorem moveFromSan_sound (b : Board) (hv : Valid b) (s : Bytes) (mv : Move) (h : moveFromSan s b = .ok mv) :
    ∃ sm, parseSan s = .ok sm ∧ sanIntoMove sm.data b = .ok mv ∧ C13.LegalStep b mv ∧ Agrees b sm.data mv := by
  unfold moveFromSan at h
  split at h
  · cases h
  · cases h
  · rename_i sm hsm
    split at h
    · cases h
    · cases h
    · rename_i mv' hmv
      cases h
      exact ⟨sm, hsm, hmv, san_sound_step b hv _ _ hmv, (san_sound b hv _ _ hmv).2⟩

/-- `impl Make for san::Move`: an accepted SAN move is a legal step applied by `make_move_unchecked` -/
theorem makeSanMove_ok (b : Board) (hv : Valid b) (m : SanMove) : C13.MakeLikeOk b (makeSanMove b m) := by
  intro mv b' h
  unfold makeSanMove at h
  split at h
  · cases h
  · cases h
  · rename_i mv' hmv
    simp only [Res.ok.injEq, Prod.mk.injEq] at h
    obtain ⟨e1, e2⟩ := h
    subst e1
    exact ⟨san_sound_step b hv _ _ hmv, e2.symm⟩

/-- `impl Make for San<S>`: an accepted SAN string is a legal step applied by `make_move_unchecked` -/
theorem makeSanStr_ok (b : Board) (hv : Valid b) (s : Bytes) : C13.MakeLikeOk b (makeSanStr b s) := by
  intro mv b' h
  unfold makeSanStr at h
  split at h
  · cases h
  · cases h
  · rename_i mv' hmv
    simp only [Res.ok.injEq, Prod.mk.injEq] at h
    obtain ⟨e1, e2⟩ := h
    subst e1
    obtain ⟨_, _, _, hl, _⟩ := moveFromSan_sound b hv s _ hmv
    exact ⟨hl, e2.symm⟩

/-- the position after an accepted SAN push is valid again (C02 for the SAN paths) -/
theorem makeSan_valid (b : Board) (hv : Valid b) :
    (∀ m mv b', makeSanMove b m = .ok (mv, b') → Valid b')
    ∧ (∀ s mv b', makeSanStr b s = .ok (mv, b') → Valid b') := by
  constructor
  · intro m mv b' h
    obtain ⟨hl, e⟩ := makeSanMove_ok b hv m mv b' h
    subst e; exact valid_make b mv hv hl.wf hl.sl hl.legal
  · intro s mv b' h
    obtain ⟨hl, e⟩ := makeSanStr_ok b hv s mv b' h
    subst e; exact valid_make b mv hv hl.wf hl.sl hl.legal

/-- the SAN push paths cannot panic on a valid board (parser-produced data; text) -/
theorem makeSan_no_trap (b : Board) (hv : Valid b) (w : String) :
    (∀ m : SanMove, m.data.ParserShape → makeSanMove b m ≠ .trap w) ∧ (∀ s, makeSanStr b s ≠ .trap w) := by
  constructor
  · intro m hm h
    unfold makeSanMove at h
    split at h
    · rename_i w' hw; exact (sanIntoMove_post b hv _ hm).no_trap w' hw
    · cases h
    · cases h
  · intro s h
    unfold makeSanStr at h
    split at h
    · rename_i w' hw; exact moveFromSan_no_trap b hv s w' hw
    · cases h
    · cases h

/-- "Nf3" in the initial position -/
example : sanIntoMove (.simple .knight none none false 45) (buildBoard C04.initialRaw) = .ok ⟨.simple, 3, 62, 45⟩ := by
  decide +kernel

/-- "4k3/8/8/8/8/8/8/N1N1K3 w - - 0 1" -/
def fenTwoKnights : Bytes :=
  [52, 107, 51, 47, 56, 47, 56, 47, 56, 47, 56, 47, 56, 47, 56, 47, 78, 49, 78, 49, 75, 51, 32, 119, 32, 45, 32, 45,
    32, 48, 32, 49]

/-- "Nb3" with knights on a1 and c1: reported as ambiguous -/
example : (match parseFenBoard fenTwoKnights with
    | .ok b => moveFromSan [78, 98, 51] b
    | _ => .trap "fen") = .err (.convert (.ambiguity ⟨.simple, 3, 58, 41⟩ ⟨.simple, 3, 56, 41⟩)) := by
  decide +kernel

/-- "Nab3" in the same position: resolved by the file hint -/
example : (match parseFenBoard fenTwoKnights with
    | .ok b => moveFromSan [78, 97, 98, 51] b
    | _ => .trap "fen") = .ok ⟨.simple, 3, 56, 41⟩ := by
  decide +kernel

/-- "4k3/8/8/3p4/4P3/3p4/4P3/4K3 w - - 0 1" -/
def fenTwoCaptures : Bytes := [52, 107, 51, 47, 56, 47, 56, 47, 51, 112, 52, 47, 52, 80, 51, 47, 51, 112, 52, 47, 52, 80, 51, 47, 52, 75, 51, 32, 119, 32, 45, 32, 45, 32, 48, 32, 49]

/-- "ed" with e4xd5 and e2xd3 both legal: reported as ambiguous -/
example : (match parseFenBoard fenTwoCaptures with
    | .ok b => moveFromSan [101, 100] b
    | _ => .trap "fen") = .err (.convert (.ambiguity ⟨.simple, 1, 52, 43⟩ ⟨.simple, 1, 36, 27⟩)) := by
  decide +kernel

end Owl.Props.C09
