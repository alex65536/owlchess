/-
The derived state as a function of the squares: membership in the rebuilt occupancy sets, the from-scratch hash as an
XOR fold, and the law all three obey when one square is written: XOR the old square's contribution out, the new one's in.
`Consistent` says the stored derived state is that function of the stored squares.
-/
import OwlModel.Lemmas.BitSet
import OwlModel.Impl.Moves

namespace Owl.Tab
variable {n : Nat} {α : Type}

def puts (t : Tab n α) (es : List (Fin n × α)) : Tab n α := es.foldl (fun u e => u.put e.1 e.2) t

theorem puts_nil (t : Tab n α) : t.puts [] = t := rfl
theorem puts_cons (t : Tab n α) (e : Fin n × α) (es : List (Fin n × α)) :
    t.puts (e :: es) = (t.put e.1 e.2).puts es := rfl

theorem get_puts_of_not_mem (es : List (Fin n × α)) (t : Tab n α) (j : Fin n) (h : j ∉ es.map Prod.fst) :
    (t.puts es).get j = t.get j := by
  induction es generalizing t with
  | nil => rfl
  | cons e es ih =>
    simp only [List.map_cons, List.mem_cons, not_or] at h
    rw [puts_cons, ih _ h.2, get_put, if_neg (fun e' => h.1 e'.symm)]

/-- writing `v` back at some squares: those squares hold `v` afterwards, whatever stood there; the last write wins,
and all of them write `v` -/
theorem get_puts_map (v : Fin n → α) (es : List (Fin n × α)) (u : Tab n α) (j : Fin n) :
    (u.puts (es.map fun e => (e.1, v e.1))).get j = if j ∈ es.map Prod.fst then v j else u.get j := by
  induction es generalizing u with
  | nil => rfl
  | cons e es ih =>
    rw [List.map_cons, puts_cons, ih, get_put]
    by_cases h1 : j ∈ es.map Prod.fst
    · simp [h1]
    · by_cases h2 : e.1 = j
      · simp [h2]
      · simp [h1, h2, Ne.symm h2]

/-- writing back the old entries at the squares that were written restores the table, in whatever order and
whether or not the squares differ -/
theorem puts_restore (t : Tab n α) (es : List (Fin n × α)) :
    (t.puts es).puts (es.map fun e => (e.1, t.get e.1)) = t := by
  apply Tab.ext; intro j
  rw [get_puts_map]
  split
  · rfl
  · rename_i hj; exact get_puts_of_not_mem es t j hj

end Owl.Tab

namespace Owl.Lemmas
open Owl Owl.Impl

theorem board_ext {a b : Board} (hr : a.r = b.r) (hh : a.hash = b.hash) (hw : a.white = b.white)
    (hbk : a.black = b.black) (ha : a.all = b.all) (hp : a.pieces = b.pieces) : a = b := by
  cases a; cases b; simp_all

theorem raw_ext {a b : RawBoard} (h1 : a.cells = b.cells) (h2 : a.side = b.side) (h3 : a.castling = b.castling)
    (h4 : a.ep = b.ep) (h5 : a.mc = b.mc) (h6 : a.mn = b.mn) : a = b := by
  cases a; cases b; simp_all

theorem has_colorSet (cells : Tab 64 Cell) (c : Color) (t : Sq) :
    (colorSet cells c).has t = decide ((cells.get t).color = some c) := by
  unfold colorSet
  have := BB.has_foldl_cond (fun s => decide ((cells.get s).color = some c)) Sq.all 0#64 t
  simp only [decide_eq_true_eq] at this
  rw [this]; simp [mem_sq_all]

theorem has_pieceSet (cells : Tab 64 Cell) (x : Cell) (t : Sq) :
    (pieceSet cells x).has t = (decide (x.val ≠ 0) && decide (cells.get t = x)) := by
  unfold pieceSet
  by_cases hx : x.val = 0
  · simp [hx]
  · have := BB.has_foldl_cond (fun s => decide (cells.get s = x)) Sq.all 0#64 t
    simp only [decide_eq_true_eq] at this
    simp only [hx, if_false]
    rw [this]; simp [mem_sq_all, hx]

theorem colorSet_put (cells : Tab 64 Cell) (s : Sq) (y : Cell) (c : Color) :
    colorSet (cells.put s y) c
      = colorSet cells c ^^^ BB.bit ((cells.get s).color = some c) s ^^^ BB.bit (y.color = some c) s := by
  apply BB.ext_has; intro t
  simp only [BB.has_xor, has_colorSet, BB.has_bit, Tab.get_put]
  by_cases h : s = t
  · subst h; simp
  · simp [h]

theorem pieceSet_put (cells : Tab 64 Cell) (s : Sq) (y x : Cell) :
    pieceSet (cells.put s y) x
      = pieceSet cells x ^^^ BB.bit (cells.get s = x ∧ cells.get s ≠ Cell.empty) s ^^^ BB.bit (y = x ∧ y ≠ Cell.empty) s := by
  have hx : x.val ≠ 0 ↔ x ≠ Cell.empty := ⟨fun h e => h (e ▸ rfl), fun h e => h (Fin.ext e)⟩
  apply BB.ext_has; intro t
  simp only [BB.has_xor, has_pieceSet, BB.has_bit, Tab.get_put, hx]
  by_cases h : s = t
  · subst h
    by_cases h1 : cells.get s = x <;> by_cases h2 : y = x <;> by_cases hx : x = Cell.empty <;> simp_all
  · simp [h]

def xorFold (f : Sq → BB) (l : List Sq) (acc : BB) : BB := l.foldl (fun h s => h ^^^ f s) acc

theorem xorFold_acc (f : Sq → BB) (l : List Sq) (acc : BB) : xorFold f l acc = acc ^^^ xorFold f l 0#64 := by
  unfold xorFold
  induction l generalizing acc with
  | nil => simp
  | cons x xs ih =>
    simp only [List.foldl_cons]
    rw [ih (acc ^^^ f x), ih (0#64 ^^^ f x)]
    simp [BitVec.xor_assoc]

theorem xorFold_congr (f g : Sq → BB) (l : List Sq) (acc : BB) (h : ∀ s ∈ l, f s = g s) :
    xorFold f l acc = xorFold g l acc := by
  unfold xorFold
  induction l generalizing acc with
  | nil => rfl
  | cons x xs ih =>
    simp only [List.foldl_cons]
    rw [h x (by simp), ih _ (fun s hs => h s (by simp [hs]))]

theorem xor_cancel_left (a b : BB) : a ^^^ (a ^^^ b) = b := by
  rw [BitVec.xor_comm a (a ^^^ b), BitVec.xor_comm a b, BB.xor_xor_cancel]

theorem xorFold_update (f g : Sq → BB) (p : Sq) (l : List Sq) (hnd : l.Nodup) (hp : p ∈ l)
    (hfg : ∀ s, s ≠ p → f s = g s) :
    xorFold g l 0#64 = xorFold f l 0#64 ^^^ f p ^^^ g p := by
  induction l with
  | nil => simp at hp
  | cons x xs ih =>
    have hnd' := (List.nodup_cons.mp hnd)
    unfold xorFold
    simp only [List.foldl_cons]
    show xorFold g xs (0#64 ^^^ g x) = xorFold f xs (0#64 ^^^ f x) ^^^ f p ^^^ g p
    rw [xorFold_acc g xs, xorFold_acc f xs]
    by_cases hx : x = p
    · subst hx
      have hcong : xorFold g xs 0#64 = xorFold f xs 0#64 :=
        (xorFold_congr f g xs 0 (fun s hs => hfg s (fun e => hnd'.1 (e ▸ hs)))).symm
      rw [hcong]
      grind
    · have hp' : p ∈ xs := by
        rcases List.mem_cons.mp hp with h | h
        · exact absurd h.symm hx
        · exact h
      rw [ih hnd'.2 hp', hfg x hx]
      grind

theorem zPieces_empty (s : Sq) : zPieces 0 s = 0#64 := by revert s; decide +kernel

/-- the squares' part of the hash; an empty square contributes its key too, which is 0 (`zPieces_empty`) -/
def cellsHash (cells : Tab 64 Cell) : BB := xorFold (fun s => zPieces (cells.get s) s) Sq.all 0#64

def epKey : Option Sq → BB
  | some p => zEnpassant p
  | none => 0#64

def headerHash (side : Color) (ep : Option Sq) (castling : Rights) : BB :=
  ((if side = .white then zMoveSide else 0#64) ^^^ epKey ep) ^^^ zCastling castling

theorem zobrist_eq (r : RawBoard) : r.zobrist = headerHash r.side r.ep r.castling ^^^ cellsHash r.cells := by
  unfold RawBoard.zobrist headerHash cellsHash
  have hfold : ∀ acc : BB,
      Sq.all.foldl (fun h s => if (r.get s).isOcc then h ^^^ zPieces (r.get s) s else h) acc
        = xorFold (fun s => zPieces (r.cells.get s) s) Sq.all acc := by
    intro acc
    unfold xorFold
    congr 1
    funext h s
    unfold RawBoard.get
    by_cases ho : (r.cells.get s).isOcc
    · simp [ho]
    · have : r.cells.get s = 0 := by
        unfold Cell.isOcc at ho; exact Fin.ext (by simpa using ho)
      simp [this, zPieces_empty]
  simp only [hfold]
  rw [xorFold_acc]
  congr 1
  cases r.ep <;> simp [epKey]

theorem cellsHash_put (cells : Tab 64 Cell) (p : Sq) (c : Cell) :
    cellsHash (cells.put p c) = cellsHash cells ^^^ zPieces (cells.get p) p ^^^ zPieces c p := by
  unfold cellsHash
  have := xorFold_update (fun s => zPieces (cells.get s) s) (fun s => zPieces ((cells.put p c).get s) s) p
    Sq.all sq_all_nodup (mem_sq_all p) (by
      intro s hs
      have : ¬ p = s := fun e => hs e.symm
      simp [Tab.get_put, this])
  rw [this]
  simp [Tab.get_put]

/-- the stored hash and occupancy sets equal those rebuilt from the raw board (C05) -/
def Consistent (b : Board) : Prop := b = buildBoard b.r

/-- everything in `Consistent` except the combined occupancy, which `do_make_move` refreshes at the end -/
def Core (b : Board) : Prop :=
  b.hash = headerHash b.r.side b.r.ep b.r.castling ^^^ cellsHash b.r.cells
  ∧ (∀ c, b.color c = colorSet b.r.cells c)
  ∧ (∀ x, b.pieces.get x = pieceSet b.r.cells x)

theorem consistent_core (b : Board) : Consistent b ↔ Core b ∧ b.all = b.color .white ||| b.color .black := by
  unfold Consistent Core
  cases b with
  | mk r hash white black all pieces =>
    simp only [buildBoard, Board.mk.injEq, true_and, Board.color, zobrist_eq, reduceCtorEq, if_true, if_false]
    constructor
    · rintro ⟨h1, h2, h3, h4, h5⟩
      refine ⟨⟨h1, fun c => by cases c <;> simp [h2, h3], fun x => by rw [h5, Tab.get_ofFn]⟩, by rw [h4, ← h2, ← h3]⟩
    · rintro ⟨⟨h1, h2, h3⟩, h4⟩
      have hw := h2 .white; have hb := h2 .black
      simp only [reduceCtorEq, if_true, if_false] at hw hb
      exact ⟨h1, hw, hb, by rw [h4, hw, hb], Tab.ext fun x => by rw [h3, Tab.get_ofFn]⟩

theorem consistent_iff' (b : Board) :
    Consistent b ↔
      b.hash = headerHash b.r.side b.r.ep b.r.castling ^^^ cellsHash b.r.cells
      ∧ (∀ c t, (b.color c).has t = decide ((b.get t).color = some c))
      ∧ b.all = b.color .white ||| b.color .black
      ∧ (∀ x t, (b.pieces.get x).has t = (decide (x.val ≠ 0) && decide (b.get t = x))) := by
  have hc : (∀ c, b.color c = colorSet b.r.cells c) ↔ ∀ c t, (b.color c).has t = decide ((b.get t).color = some c) := by
    simp only [BB.eq_iff_has, has_colorSet]; rfl
  have hp : (∀ x, b.pieces.get x = pieceSet b.r.cells x)
      ↔ ∀ x t, (b.pieces.get x).has t = (decide (x.val ≠ 0) && decide (b.get t = x)) := by
    simp only [BB.eq_iff_has, has_pieceSet]; rfl
  rw [consistent_core, Core, hc, hp]
  exact ⟨fun ⟨⟨h1, h2, h4⟩, h3⟩ => ⟨h1, h2, h3, h4⟩, fun ⟨h1, h2, h3, h4⟩ => ⟨⟨h1, h2, h4⟩, h3⟩⟩

end Owl.Lemmas
