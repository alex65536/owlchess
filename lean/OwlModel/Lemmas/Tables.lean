/-
C15: the magic lookups of rook and bishop equal the ray walk, for every square and all 2^64 occupancies.
Per square the kernel checks every occupancy of the extracted mask (`checkSq`); `checkSq_sound` lifts that to every
occupancy. Rook and bishop share everything: the generated data of one of them is a `Magic`.
-/
import OwlModel.Lemmas.Slide

namespace Owl.Lemmas
open Owl

/-- the generated data of one line piece: per-square constants as packed tables, the lookup table in chunks, its length -/
structure Magic where
  mask : Nat
  magic : Nat
  shift : Nat
  off : Nat
  post : Nat
  chunk : Nat → Nat
  len : Nat

def rookM : Magic :=
  ⟨Gen.rookMask, Gen.rookMagic, Gen.rookShift, Gen.rookOff, Gen.rookPost, Gen.rookChunk, Gen.rookLookupLen⟩
def bishopM : Magic :=
  ⟨Gen.bishopMask, Gen.bishopMagic, Gen.bishopShift, Gen.bishopOff, Gen.bishopPost, Gen.bishopChunk, Gen.bishopLookupLen⟩

namespace Magic

/-- global index into the lookup table (`Impl.rookIndex`, `Impl.bishopIndex`) -/
def index (m : Magic) (s : Sq) (occ : BB) : Nat :=
  (tabGet m.off s.val).toNat
    + (((occ &&& tabGet m.mask s.val) * tabGet m.magic s.val) >>> (tabGet m.shift s.val).toNat).toNat

/-- `Impl.rookAttack`, `Impl.bishopAttack` -/
def attack (m : Magic) (s : Sq) (occ : BB) : BB :=
  tabGet (m.chunk (m.index s occ / Gen.chunkSize)) (m.index s occ % Gen.chunkSize) &&& tabGet m.post s.val

end Magic

/-- entry of a packed per-square table -/
def ent (t : Nat) (s : Sq) : Nat := (t >>> (64 * s.val)) % 2 ^ 64

/-- chunks `k … k + n - 1` of a lookup table as one packed table -/
def flat (chunk : Nat → Nat) (k : Nat) : Nat → Nat
  | 0 => 0
  | n + 1 => flat chunk k n ||| (chunk (k + n) % 2 ^ (64 * Gen.chunkSize)) <<< (64 * Gen.chunkSize * n)

/-- `Magic.attack` on numbers; `tab` is the flattened lookup table, the other arguments the constants of the square -/
def attackN (tab mask magic shift off post occ : Nat) : Nat :=
  Nat.land (Nat.mod (Nat.shiftRight tab (Nat.mul 64 (Nat.add off
    (Nat.shiftRight (Nat.mod (Nat.mul (Nat.land occ mask) magic) (2 ^ 64)) shift)))) (2 ^ 64)) post

theorem attackN_eq (tab mask magic shift off post occ : Nat) : attackN tab mask magic shift off post occ
    = (tab >>> (64 * (off + ((occ &&& mask) * magic % 2 ^ 64) >>> shift))) % 2 ^ 64 &&& post := rfl

theorem toNat_tabGet (t : Nat) (s : Sq) : (tabGet t s.val).toNat = ent t s := by
  simp [tabGet, ent]

theorem testBit_flat (chunk : Nat → Nat) (k i : Nat) : ∀ n, (flat chunk k n).testBit i
    = (decide (i < 64 * Gen.chunkSize * n)
        && (chunk (k + i / (64 * Gen.chunkSize))).testBit (i % (64 * Gen.chunkSize)))
  | 0 => by simp [flat]
  | n + 1 => by
    rw [flat, Nat.testBit_or, testBit_flat chunk k i n, Nat.testBit_shiftLeft, Nat.testBit_mod_two_pow]
    simp only [show 64 * Gen.chunkSize = 65536 from rfl]
    by_cases h1 : i < 65536 * n
    · simp [h1, show i < 65536 * (n + 1) by omega, show ¬ i ≥ 65536 * n by omega]
    · by_cases h2 : i < 65536 * (n + 1)
      · simp [h1, h2, show i ≥ 65536 * n by omega, show i - 65536 * n < 65536 by omega,
          show i / 65536 = n by omega, show i % 65536 = i - 65536 * n by omega]
      · simp [h1, h2, show ¬ i - 65536 * n < 65536 by omega]

theorem flat_entry (chunk : Nat → Nat) (k n g : Nat) (h1 : Gen.chunkSize * k ≤ g) (h2 : g < Gen.chunkSize * (k + n)) :
    (flat chunk k n >>> (64 * (g - Gen.chunkSize * k))) % 2 ^ 64
      = (tabGet (chunk (g / Gen.chunkSize)) (g % Gen.chunkSize)).toNat := by
  simp only [tabGet, BitVec.toNat_ofNat]
  apply Nat.eq_of_testBit_eq
  intro j
  simp only [Nat.testBit_mod_two_pow, Nat.testBit_shiftRight, testBit_flat]
  simp only [Gen.chunkSize] at h1 h2 ⊢
  by_cases hj : j < 64
  · have e1 : k + (64 * (g - 1024 * k) + j) / (64 * 1024) = g / 1024 := by omega
    have e2 : (64 * (g - 1024 * k) + j) % (64 * 1024) = 64 * (g % 1024) + j := by omega
    have e3 : 64 * (g - 1024 * k) + j < 64 * 1024 * n := by omega
    simp [hj, e1, e2, e3]
  · simp [hj]

theorem attackN_flat (chunk : Nat → Nat) (mask magic shift off post occ size : Nat)
    (h : ((occ &&& mask) * magic % 2 ^ 64) >>> shift < size) :
    attackN (flat chunk (off / Gen.chunkSize) ((off % Gen.chunkSize + size) / Gen.chunkSize + 1)) mask magic shift
        (off % Gen.chunkSize) post occ
      = (tabGet (chunk ((off + ((occ &&& mask) * magic % 2 ^ 64) >>> shift) / Gen.chunkSize))
          ((off + ((occ &&& mask) * magic % 2 ^ 64) >>> shift) % Gen.chunkSize)).toNat &&& post := by
  rw [attackN_eq]
  generalize ((occ &&& mask) * magic % 2 ^ 64) >>> shift = v at h ⊢
  have e : 64 * (off % Gen.chunkSize + v) = 64 * (off + v - Gen.chunkSize * (off / Gen.chunkSize)) := by
    simp only [Gen.chunkSize]; omega
  rw [e, flat_entry] <;> simp only [Gen.chunkSize] <;> omega

/-- the check of one square `s`: its index range lies inside the table, the mask is the rays without their last
squares, and the lookup is the ray walk for every occupancy of the mask. Only the chunks that hold the index range of
the square are flattened: every lookup shifts that table. -/
def checkSq (m : Magic) (dirs : List (Int × Int)) (s : Sq) : Bool :=
  let off := ent m.off s
  let size := 2 ^ (64 - ent m.shift s)
  decide (ent m.shift s ≤ 64 ∧ off + size ≤ m.len)
  && Nat.beq (ent m.mask s) (maskM (raysM dirs s))
  && runTabs (attackN (flat m.chunk (off / Gen.chunkSize) ((off % Gen.chunkSize + size) / Gen.chunkSize + 1))
        (ent m.mask s) (ent m.magic s) (ent m.shift s) (off % Gen.chunkSize) (ent m.post s))
      (pairUp ((raysM dirs s).map rayTab)) 0 0

/-- the lift: a square that passes the check has its index in range and its lookup exact for all 2^64 occupancies -/
theorem checkSq_sound {m : Magic} {dirs : List (Int × Int)} {s : Sq} (h : checkSq m dirs s = true) (occ : BB) :
    m.index s occ < m.len ∧ m.attack s occ = slideBB dirs occ s := by
  simp only [checkSq, Bool.and_eq_true, decide_eq_true_eq] at h
  obtain ⟨⟨⟨hs, hr⟩, hmask⟩, hall⟩ := h
  have hv : ∀ o : BB, ((o.toNat &&& ent m.mask s) * ent m.magic s % 2 ^ 64) >>> ent m.shift s
      < 2 ^ (64 - ent m.shift s) := by
    intro o
    have := BitVec.toNat_ushiftRight_lt ((o &&& tabGet m.mask s.val) * tabGet m.magic s.val) _ hs
    simpa only [BitVec.toNat_ushiftRight, BitVec.toNat_mul, BitVec.toNat_and, toNat_tabGet] using this
  have hi : ∀ o : BB, m.index s o
      = ent m.off s + ((o.toNat &&& ent m.mask s) * ent m.magic s % 2 ^ 64) >>> ent m.shift s := by
    intro o
    simp only [Magic.index, toNat_tabGet, BitVec.toNat_ushiftRight, BitVec.toNat_mul, BitVec.toNat_and]
  have hatt : ∀ o : BB, m.attack s o = BB.ofNat (attackN
      (flat m.chunk (ent m.off s / Gen.chunkSize)
        ((ent m.off s % Gen.chunkSize + 2 ^ (64 - ent m.shift s)) / Gen.chunkSize + 1))
      (ent m.mask s) (ent m.magic s) (ent m.shift s) (ent m.off s % Gen.chunkSize) (ent m.post s) o.toNat) := by
    intro o
    apply BitVec.eq_of_toNat_eq
    rw [attackN_flat _ _ _ _ _ _ _ _ (hv o), ← hi, Magic.attack, BitVec.toNat_and, toNat_tabGet, BB.ofNat,
      BitVec.toNat_ofNat]
    exact (Nat.mod_eq_of_lt (Nat.lt_of_le_of_lt Nat.and_le_right (Nat.mod_lt _ (Nat.two_pow_pos 64)))).symm
  refine ⟨by rw [hi]; have := hv occ; omega, ?_⟩
  have hcut : m.attack s occ = m.attack s (occ &&& tabGet m.mask s.val) := by
    simp only [Magic.attack, Magic.index, BitVec.and_assoc, BitVec.and_self]
  have hrays : raysM dirs s = (dirs.map fun d => Spec.ray d 7 s).map fun l => l.map bitN := by
    simp only [raysM, List.map_map, Function.comp_def]
  rw [runTabs_pairUp, hrays, List.map_map] at hall
  have hwalk := runTabs_sound occ.toNat _ _ _ hall
  rw [← hrays, ← Nat.eq_of_beq_eq_true hmask, Nat.zero_or, Nat.zero_or] at hwalk
  rw [hcut, hatt, slideBB_eq_slideM, BitVec.toNat_and, toNat_tabGet, hwalk]

theorem rook_table : ∀ s : Sq, checkSq rookM Spec.rookDirs s = true := by decide +kernel

theorem bishop_table : ∀ s : Sq, checkSq bishopM Spec.bishopDirs s = true := by decide +kernel

/-- C15 (rook lines): for every square and every occupancy the lookup is the ray walk -/
theorem rookAttack_eq_slide (s : Sq) (occ : BB) : Impl.rookAttack s occ = slideBB Spec.rookDirs occ s :=
  (checkSq_sound (rook_table s) occ).2

/-- C15 (bishop lines): the same for the bishop -/
theorem bishopAttack_eq_slide (s : Sq) (occ : BB) : Impl.bishopAttack s occ = slideBB Spec.bishopDirs occ s :=
  (checkSq_sound (bishop_table s) occ).2

end Owl.Lemmas
