/-
`Shape`, what the unchecked primitives need of a board, and what a well-formed semilegal move brings to
`make_move_unchecked`: its precondition (`makeOk_of_semilegal`) and the facts about the move that the proofs about the
position afterwards use (`MoveFacts`; for castling `castle_semi` and `CastleFacts`, with the free castling path read on
the squares: `pass_iff`).
-/
import OwlModel.Lemmas.Unmake
import OwlModel.Lemmas.SemiView
import OwlModel.Spec.Rules

namespace Owl.Lemmas
open Owl Owl.Impl

theorem home_squares (c : Color) :
    Spec.kingHome c = kingHomeSq c ∧ Spec.rookHome c .king = rookHomeSq c .king
      ∧ Spec.rookHome c .queen = rookHomeSq c .queen := by cases c <;> decide

/-- rights ⇒ king and rook on their home squares -/
def RightsOk (r : RawBoard) : Prop :=
  ∀ c s, rHas r.castling c s = true → r.get (kingHomeSq c) = Cell.mk c .king ∧ r.get (rookHomeSq c s) = Cell.mk c .rook

/-- en-passant mark ⇒ right rank, enemy pawn on it, empty square behind it -/
def EpOk (r : RawBoard) : Prop :=
  ∀ p, r.ep = some p → p.rank = epSrcRank r.side ∧ r.get p = Cell.mk r.side.inv .pawn
    ∧ r.get (addU p (forwardDelta r.side)) = Cell.empty

/-- what the unchecked primitives need: consistent derived state, rights and en-passant mark backed by the squares -/
structure Shape (b : Board) : Prop where
  cons : Consistent b
  rights : RightsOk b.r
  ep : EpOk b.r

theorem pass_masks (c : Color) (t : Sq) :
    (castlingPass c .king).has t = (decide (Sq.mk fileF (castlingRank c) = t) || decide (Sq.mk fileG (castlingRank c) = t))
    ∧ (castlingPass c .queen).has t = (decide (Sq.mk ⟨1, by decide⟩ (castlingRank c) = t)
        || decide (Sq.mk fileC (castlingRank c) = t) || decide (Sq.mk fileD (castlingRank c) = t)) := by
  cases c <;> revert t <;> decide +kernel

/-- nothing stands on a set of squares: its intersection with the occupancy is empty -/
theorem pass_empty_iff (b : Board) (hb : Consistent b) (m : BB) :
    (b.all &&& m).isEmpty = true ↔ ∀ t, m.has t = true → b.get t = Cell.empty := by
  refine ⟨fun h t ht => ?_, fun h => (BB.isEmpty_iff _).mpr fun t => ?_⟩
  · have := (BB.isEmpty_iff _).mp h t
    rw [BB.has_and, ht, all_has b hb] at this
    simpa [Cell.empty] using this
  rw [BB.has_and, all_has b hb]
  cases hm : m.has t with
  | false => exact Bool.and_false _
  | true => rw [h t hm]; rfl

theorem pass_iff (b : Board) (hb : Consistent b) (c : Color) :
    ((b.all &&& castlingPass c .king).isEmpty = true ↔
      (b.get (Sq.mk fileF (castlingRank c)) = Cell.empty ∧ b.get (Sq.mk fileG (castlingRank c)) = Cell.empty))
    ∧ ((b.all &&& castlingPass c .queen).isEmpty = true ↔
      (b.get (Sq.mk ⟨1, by decide⟩ (castlingRank c)) = Cell.empty ∧ b.get (Sq.mk fileC (castlingRank c)) = Cell.empty
        ∧ b.get (Sq.mk fileD (castlingRank c)) = Cell.empty)) := by
  rw [pass_empty_iff b hb, pass_empty_iff b hb]
  simp only [(pass_masks c _).1, (pass_masks c _).2, Bool.or_eq_true, decide_eq_true_eq]
  constructor
  · exact ⟨fun h => ⟨h _ (Or.inl rfl), h _ (Or.inr rfl)⟩,
      fun ⟨h1, h2⟩ t ht => by rcases ht with rfl | rfl <;> assumption⟩
  · exact ⟨fun h => ⟨h _ (Or.inl (Or.inl rfl)), h _ (Or.inl (Or.inr rfl)), h _ (Or.inr rfl)⟩,
      fun ⟨h1, h2, h3⟩ t ht => by rcases ht with (rfl | rfl) | rfl <;> assumption⟩

theorem ep_arith (p : Sq) (c : Color) (h : p.rank = epSrcRank c) :
    addU (addU p (forwardDelta c)) (-(forwardDelta c)) = p ∧ addU p (forwardDelta c) ≠ p := by
  revert h; cases c <;> revert p <;> decide
theorem addU_one_ne : ∀ (s : Sq), addU s 1 ≠ s ∧ addU s (-1) ≠ s := by decide

theorem makeOk_of_semilegal (b : Board) (mv : Move) (hs : Shape b) (hwf : mv.isWellFormed = true)
    (hsl : isSemilegal b mv = true) : MakeOk b mv := by
  apply sl_cases b ?_ mv hwf hsl
  intro k p s d hsrc hdst hne h
  unfold MakeOk
  cases h with
  | piece | pawn => exact ⟨hsrc, color_mk _ _, hdst, hne⟩
  | promo hk =>
    revert hk
    cases k <;> simp only [Kind.promote, Option.isSome_none, Option.isSome_some, Bool.false_eq_true, false_imp_iff,
      true_imp_iff] <;> exact ⟨hsrc, trivial, hdst, hne⟩
  | double _ _ _ _ he => exact ⟨hsrc, he, hne⟩
  | ep q _ _ _ hep hq hd =>
    obtain ⟨hrank, hpawn, hbehind⟩ := hs.ep q hep
    obtain ⟨har, hne2⟩ := ep_arith q b.r.side hrank
    simp only [hd, har]
    refine ⟨hsrc, hbehind, hpawn, hd ▸ hne, ?_, hne2.symm⟩
    rcases hq with h | h <;> rw [h]
    · exact (addU_one_ne s).1
    · exact (addU_one_ne s).2
  | castleK _ _ hr hpass =>
    obtain ⟨hkh, hrh⟩ := hs.rights b.r.side .king hr
    obtain ⟨e1, e2⟩ := (pass_iff b hs.cons b.r.side).1.mp hpass
    exact ⟨hkh, e1, e2, hrh⟩
  | castleQ _ _ hr hpass =>
    obtain ⟨hkh, hrh⟩ := hs.rights b.r.side .queen hr
    obtain ⟨-, e2, e3⟩ := (pass_iff b hs.cons b.r.side).2.mp hpass
    exact ⟨hrh, e2, e3, hkh⟩

theorem nonCastle_of (b : Board) (mv : Move) (hsl : isSemilegal b mv = true) (hc : ∀ sd, mv.kind ≠ castleKind sd) :
    NonCastle mv := ⟨(semilegal_base b mv hsl).1, hc .king, hc .queen⟩

theorem castle_sq_facts (c : Color) :
    addU (Sq.mk fileE (castlingRank c)) 1 = Sq.mk fileF (castlingRank c)
    ∧ addU (Sq.mk fileE (castlingRank c)) (-1) = Sq.mk fileD (castlingRank c) := by cases c <;> decide

/-- what well-formed and semilegal says of a castling move: its squares, the king standing on the first of them, the free
path, and that neither the king's square nor the one it crosses is attacked -/
theorem castle_semi (b : Board) (mv : Move) (hwf : mv.isWellFormed = true) (hsl : isSemilegal b mv = true)
    (sd : Side) (hk : mv.kind = castleKind sd) :
    mv.src = kingHomeSq b.r.side ∧ mv.dst = kingTo b.r.side sd
      ∧ isCellAttacked b mv.src b.r.side.inv = false ∧ b.get mv.src = Cell.mk b.r.side .king
      ∧ (b.all &&& castlingPass b.r.side sd).isEmpty = true
      ∧ isCellAttacked b (rookTo b.r.side sd) b.r.side.inv = false := by
  obtain ⟨_, hcell, hsrc, -, -, hS⟩ := (sl_iff b mv).mp ⟨hwf, hsl⟩
  obtain ⟨f1, f2⟩ := castle_sq_facts b.r.side
  rw [hk] at hS
  rw [hcell] at hsrc
  cases sd with
  | king =>
    cases hS with
    | promo hp => cases hp
    | castleK e1 e2 _ hp hnE hnF => exact ⟨e1, e2, hnE, hsrc, hp, by rw [e1, f1] at hnF; exact hnF⟩
  | queen =>
    cases hS with
    | promo hp => cases hp
    | castleQ e1 e2 _ hp hnE hnD => exact ⟨e1, e2, hnE, hsrc, hp, by rw [e1, f2] at hnD; exact hnD⟩

theorem newCell_color (mv : Move) (c : Color) (hcol : mv.cell.color = some c) : (newCell mv c).color = some c := by
  unfold newCell; cases mv.kind <;> simp [hcol]

/-- facts about a well-formed semilegal move, collected once -/
structure MoveFacts (b : Board) (mv : Move) : Prop where
  ne : mv.src ≠ mv.dst
  src : b.get mv.src = mv.cell
  col : mv.cell.color = some b.r.side
  dstc : (b.get mv.dst).color ≠ some b.r.side
  vs : mv.kind = .ep → mv.src ≠ addU mv.dst (-(forwardDelta b.r.side))
  vd : mv.kind = .ep → mv.dst ≠ addU mv.dst (-(forwardDelta b.r.side))
  vp : mv.kind = .ep → b.get (addU mv.dst (-(forwardDelta b.r.side))) = Cell.mk b.r.side.inv .pawn

theorem MoveFacts.srcc {b : Board} {mv : Move} (F : MoveFacts b mv) : (b.get mv.src).color = some b.r.side :=
  F.src ▸ F.col

theorem moveFacts (b : Board) (mv : Move) (hs : Shape b) (hwf : mv.isWellFormed = true)
    (hsl : isSemilegal b mv = true) : MoveFacts b mv := by
  obtain ⟨p, hcell, hsrc, hdst, hne, -⟩ := (sl_iff b mv).mp ⟨hwf, hsl⟩
  have hcol : mv.cell.color = some b.r.side := by rw [hcell]; exact color_mk _ _
  have ok := makeOk_of_semilegal b mv hs hwf hsl
  exact ⟨hne, hsrc, hcol, hdst, fun hk e => (ok.ep hk).2.1 e.symm, fun hk e => (ok.ep hk).2.2 e.symm, fun hk => (ok.ep hk).1⟩

/-- a castling move as an edit of four squares: king `K0 → K1`, rook `R0 → R1` -/
structure CastleFacts (b b' : Board) (c : Color) (K0 K1 R0 R1 : Sq) : Prop where
  n1 : K0 ≠ K1
  n2 : K0 ≠ R0
  n3 : K0 ≠ R1
  n4 : K1 ≠ R0
  n5 : K1 ≠ R1
  n6 : R0 ≠ R1
  bK0 : b.get K0 = Cell.mk c .king
  bR0 : b.get R0 = Cell.mk c .rook
  bK1 : b.get K1 = Cell.empty
  bR1 : b.get R1 = Cell.empty
  get' : b'.get = relocate (relocate b.get K0 K1 (Cell.mk c .king)) R0 R1 (Cell.mk c .rook)

/-- the rook's two squares once the king has gone -/
theorem CastleFacts.rook {b b' : Board} {c : Color} {K0 K1 R0 R1 : Sq} (CF : CastleFacts b b' c K0 K1 R0 R1) :
    relocate b.get K0 K1 (Cell.mk c .king) R0 = Cell.mk c .rook
      ∧ relocate b.get K0 K1 (Cell.mk c .king) R1 = Cell.empty :=
  ⟨(relocate_other _ _ CF.n4.symm CF.n2.symm).trans CF.bR0, (relocate_other _ _ CF.n5.symm CF.n3.symm).trans CF.bR1⟩

theorem castleFacts (b : Board) (mv : Move) (sd : Side) (hk : mv.kind = castleKind sd) (ok : MakeOk b mv) :
    CastleFacts b (makeMove b mv).1 b.r.side (kingHomeSq b.r.side) (kingTo b.r.side sd)
      (rookHomeSq b.r.side sd) (rookTo b.r.side sd) := by
  obtain ⟨n1, n2, n3, n4, n5, n6⟩ := castle_ne b.r.side sd
  obtain ⟨bK0, bR0, bK1, bR1⟩ := ok.castle sd hk
  exact ⟨n1, n2, n3, n4, n5, n6, bK0, bR0, bK1, bR1, castle_get b mv sd hk⟩

theorem home_ne (c : Color) : kingHomeSq c.inv ≠ kingHomeSq c := by cases c <;> decide

end Owl.Lemmas
