/-
Facts about `Cell` values (`Cell.mk`, `Cell.empty`, `color`, `piece`) that need nothing but the definitions.
-/
import OwlModel.Impl.Board

namespace Owl.Lemmas
open Owl Owl.Impl

@[simp] theorem color_mk (c : Color) (p : Piece) : (Cell.mk c p).color = some c := by cases c <;> cases p <;> decide

theorem piece_mk (c : Color) (p : Piece) : (Cell.mk c p).piece = some p := by cases c <;> cases p <;> decide

theorem mk_ne_zero (c : Color) (p : Piece) : Cell.mk c p ≠ 0 := by cases c <;> cases p <;> decide

theorem mk_ne_empty (c : Color) (p : Piece) : Cell.mk c p ≠ Cell.empty := mk_ne_zero c p

theorem mk_inj {c c' : Color} {p p' : Piece} (h : Cell.mk c p = Cell.mk c' p') : c = c' ∧ p = p' := by
  revert h; cases c <;> cases c' <;> cases p <;> cases p' <;> decide

theorem cell_color_ne (c : Color) (p q : Piece) : Cell.mk c p ≠ Cell.mk c.inv q := by
  cases c <;> cases p <;> cases q <;> decide

theorem empty_color : Cell.empty.color = none := by decide

theorem color_ne_empty {x : Cell} {c : Color} (h : x.color = some c) : x ≠ Cell.empty := by
  intro e; rw [e, empty_color] at h; cases h

theorem cell_cases (x : Cell) : x = Cell.empty ∨ ∃ c p, x = Cell.mk c p := by
  have : ∀ x : Cell, x = Cell.empty ∨ x = Cell.mk (x.color.getD .white) (x.piece.getD .pawn) := by decide
  exact (this x).imp_right fun h => ⟨_, _, h⟩

theorem color_inv_iff (x : Cell) (c : Color) : x.color = some c.inv ↔ (x.color ≠ some c ∧ x ≠ Cell.empty) := by
  revert x; cases c <;> decide

theorem isFree_eq (x : Cell) (h : x.isFree = true) : x = Cell.empty := by
  revert h; revert x; decide

theorem isFree_of_color (x : Cell) (c : Color) (h : x.color = some c) : x.isFree = false := by
  revert h; revert x; cases c <;> decide

theorem isOcc_iff (x : Cell) : x.isOcc = true ↔ x ≠ 0 := by
  revert x; decide

theorem inv_of_ne {c c' : Color} (h : c ≠ c') : c.inv = c' := by
  revert h; cases c <;> cases c' <;> simp [Color.inv]

end Owl.Lemmas
