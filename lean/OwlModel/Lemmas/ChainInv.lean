/-
The chain invariant `ChainInv` (valid start; stack = a legal game from the start with the undo records `make` returned;
board = last position; repetition table = hash counts of the positions so far) and its preservation by each chain
operation. A push path enters only through `MakeLikeOk`, which is proved here for moves and UCI values / strings and in
Lemmas/SanSound for SAN.
-/
import OwlModel.Lemmas.Repeat
import OwlModel.Props.C02

namespace Owl.Props.C13
open Owl Owl.Impl Owl.Lemmas Owl.Props

/-- a move the checked API accepts in position `b` -/
structure LegalStep (b : Board) (m : Move) : Prop where
  wf : m.isWellFormed = true
  sl : isSemilegal b m = true
  legal : isLegalUnchecked? b m = some true

def replay (b0 : Board) (ms : List Move) : Board := ms.foldl (fun b m => (makeMove b m).1) b0

/-- the stack records exactly a legal game from `b0` (with the undo record each `make` returned); `hs` lists every
position of the game so far, oldest first, the current one last -/
inductive Game (b0 : Board) : List (Move × RawUndo) → List Board → Board → Prop
  | nil : Game b0 [] [b0] b0
  | snoc {st : List (Move × RawUndo)} {hs : List Board} {bp : Board} {m : Move} :
      Game b0 st hs bp → LegalStep bp m →
      Game b0 (st ++ [(m, (makeMove bp m).2)]) (hs ++ [(makeMove bp m).1]) (makeMove bp m).1

/-- what holds of the start and is kept by every legal step holds of every position of the game -/
theorem Game.all {b0 : Board} {P : Board → Prop} (p0 : P b0)
    (step : ∀ b m, P b → LegalStep b m → P (makeMove b m).1) : ∀ {st hs b}, Game b0 st hs b → P b ∧ ∀ x ∈ hs, P x := by
  intro st hs b h
  induction h with
  | nil => exact ⟨p0, fun x hx => by rw [List.mem_singleton.mp hx]; exact p0⟩
  | snoc _ hl ih =>
    have hp := step _ _ ih.1 hl
    exact ⟨hp, fun x hx => (List.mem_append.mp hx).elim (ih.2 x) fun hx => by rw [List.mem_singleton.mp hx]; exact hp⟩

theorem Game.valid_all {b0 : Board} (h0 : Valid b0) {st hs b} (h : Game b0 st hs b) : Valid b ∧ ∀ x ∈ hs, Valid x :=
  h.all h0 fun _ _ hv hl => valid_make _ _ hv hl.wf hl.sl hl.legal

theorem Game.valid {b0 : Board} (h0 : Valid b0) {st hs b} (h : Game b0 st hs b) : Valid b :=
  (h.valid_all h0).1

theorem Game.board_eq {b0 : Board} : ∀ {st hs b}, Game b0 st hs b → b = replay b0 (st.map (·.1)) := by
  intro st hs b h
  induction h with
  | nil => rfl
  | snoc _ _ ih => simp [replay, List.foldl_append] at ih ⊢; rw [← ih]

theorem Game.ends {b0 : Board} : ∀ {st hs b}, Game b0 st hs b →
    hs.length = st.length + 1 ∧ hs[0]? = some b0 ∧ hs[st.length]? = some b := by
  intro st hs b h
  induction h with
  | nil => exact ⟨rfl, rfl, rfl⟩
  | snoc _ _ ih =>
    refine ⟨by simp [ih.1], ?_, by simp [ih.1]⟩
    rw [List.getElem?_append_left (by omega)]
    exact ih.2.1

structure ChainInvH (ch : Chain) (hs : List Board) : Prop where
  start : Valid (buildBoard ch.start)
  game : Game (buildBoard ch.start) ch.stack hs ch.board
  repWf : RepWf ch.rep
  rep : ∀ h, ch.rep.count h = (hs.map (·.hash)).count h

def ChainInv (ch : Chain) : Prop := ∃ hs, ChainInvH ch hs

theorem ChainInvH.counts {ch : Chain} {hs : List Board} (h : ChainInvH ch hs) : Counts ch.rep (hs.map (·.hash)) :=
  ⟨h.repWf, h.rep⟩

theorem ChainInv.valid {ch : Chain} (h : ChainInv ch) : Valid ch.board := by
  obtain ⟨hs, h⟩ := h; exact h.game.valid h.start

/-- C13: the current position is the replay of the recorded moves from the recorded start -/
theorem chain_faithful (ch : Chain) (h : ChainInv ch) :
    ch.board = replay (buildBoard ch.start) (ch.stack.map (·.1)) := by
  obtain ⟨hs, h⟩ := h; exact h.game.board_eq

/-- a make-like result that, when it succeeds, is a legal step applied by `make_move_unchecked` -/
def MakeLikeOk (b : Board) (r : Res MakeErr (Move × Board)) : Prop :=
  ∀ mv b', r = .ok (mv, b') → LegalStep b mv ∧ b' = (makeMove b mv).1

/-- C13: an accepted push appends exactly that move and moves to its successor; start and outcome are untouched -/
theorem push_ok (ch ch' : Chain) (h : ChainInv ch) (r : Res MakeErr (Move × Board)) (hr : MakeLikeOk ch.board r)
    (hp : ch.pushWith r = .ok ch') :
    ∃ mv, r = .ok (mv, (makeMove ch.board mv).1) ∧ LegalStep ch.board mv ∧ ChainInv ch'
      ∧ ch'.stack = ch.stack ++ [(mv, (makeMove ch.board mv).2)] ∧ ch'.board = (makeMove ch.board mv).1
      ∧ ch'.start = ch.start ∧ ch'.outcome = ch.outcome := by
  obtain ⟨hs, h⟩ := h
  unfold Chain.pushWith at hp
  split at hp
  · rename_i mv b'
    obtain ⟨hl, hb'⟩ := hr mv b' rfl
    subst hb'
    cases hp
    have hc := h.counts.push (makeMove ch.board mv).1.hash
    rw [← List.map_singleton, ← List.map_append] at hc
    exact ⟨mv, rfl, hl, ⟨_, h.start, Game.snoc h.game hl, hc.1, hc.2⟩, rfl, rfl, rfl, rfl⟩
  · cases hp
  · cases hp

/-- C13: a refused push returns the error and no new chain value -/
theorem push_refused (ch : Chain) (e : MakeErr) : ch.pushWith (.err e) = .err e := rfl

/-- C13: `pop` on an empty record changes nothing; otherwise it removes exactly the latest accepted move, restores
the position that preceded it exactly, clears the stored outcome, lowers the repetition count it had raised, and never
panics -/
theorem pop_spec' (ch : Chain) (h : ChainInv ch) :
    (ch.stack = [] ∧ ch.pop? = some (ch, none)) ∨
    (∃ st m u bp ch', ch.stack = st ++ [(m, u)] ∧ ch.pop? = some (ch', some m) ∧ ChainInv ch'
      ∧ ch'.stack = st ∧ ch'.board = bp ∧ ch.board = (makeMove bp m).1 ∧ u = (makeMove bp m).2
      ∧ ch'.start = ch.start ∧ ch'.outcome = none) := by
  obtain ⟨hs, hinv⟩ := h
  have hg := hinv.game
  generalize hst : ch.stack = stack at hg
  generalize hbd : ch.board = board at hg
  cases hg with
  | nil =>
    left
    refine ⟨rfl, ?_⟩
    unfold Chain.pop?
    rw [hst]; rfl
  | @snoc st hs0 bp m hgame hl =>
    right
    have hc := hinv.counts
    rw [List.map_append, List.map_singleton, ← hbd] at hc
    obtain ⟨r', hr, hc'⟩ := hc.pop
    have hun : unmakeMove ch.board m (makeMove bp m).2 = bp := by
      rw [hbd]; exact C02.refusal_restores bp m (hgame.valid hinv.start) hl.wf hl.sl
    refine ⟨st, m, _, bp, { ch with stack := st, rep := r', outcome := none, board := bp }, rfl, ?_,
      ⟨hs0, hinv.start, hgame, hc'.1, hc'.2⟩, rfl, rfl, rfl, rfl, rfl, rfl⟩
    unfold Chain.pop?
    rw [hst]
    simp only [List.getLast?_append, List.getLast?_singleton, Option.some_or, hr, List.dropLast_concat, hun]

theorem inv_outcome (ch : Chain) (o : Option Outcome) (h : ChainInv ch) : ChainInv { ch with outcome := o } := by
  obtain ⟨hs, h⟩ := h
  exact ⟨hs, h.start, h.game, h.repWf, h.rep⟩

theorem inv_auto (ch ch' : Chain) (f : OutcomeFilter) (h : ChainInv ch) (ha : ch.setAutoOutcome? f = some ch') :
    ChainInv ch' ∧ ch'.stack = ch.stack ∧ ch'.board = ch.board ∧ ch'.start = ch.start := by
  unfold Chain.setAutoOutcome? at ha
  split at ha
  · cases ha
  · cases ha; exact ⟨h, rfl, rfl, rfl⟩
  · split at ha
    · cases ha; exact ⟨inv_outcome ch _ h, rfl, rfl, rfl⟩
    · cases ha; exact ⟨h, rfl, rfl, rfl⟩

/-- the checked make of a well-formed move, whatever is done with its error (the tail of `impl Make for Move` and of
`impl Make for uci::Move`): it does not panic, and what it accepts is what `MakeLikeOk` asks for -/
theorem checked_post (b : Board) (mv : Move) (hv : Valid b) (hwf : mv.isWellFormed = true)
    (f : MoveValidateError → MakeErr) :
    (match makeMoveChecked b mv with
      | .ok b' => .ok (mv, b')
      | .err e => .err (f e)
      | .trap w => .trap w : Res MakeErr (Move × Board)).Ensures
        fun p => LegalStep b p.1 ∧ p.2 = (makeMove b p.1).1 := by
  cases hm : makeMoveChecked b mv with
  | ok b' =>
    obtain ⟨h1, h2, h3⟩ := (C02.make_checked_iff b mv hv hwf b').mp hm
    exact ⟨⟨hwf, h1, h2⟩, h3⟩
  | err e => trivial
  | trap w => exact C02.make_checked_no_trap b mv hv hwf w hm

theorem makeUciMove_post (b : Board) (u : UciMove) (hv : Valid b) :
    (makeUciMove b u).Ensures fun p => LegalStep b p.1 ∧ p.2 = (makeMove b p.1).1 := by
  unfold makeUciMove
  cases hu : uciIntoMove u b with
  | none => trivial
  | some mv => exact checked_post b mv hv (C02.uciIntoMove_wf b u mv hu) _

theorem makeMoveLike_ok (b : Board) (m : Move) (hv : Valid b) (hwf : m.isWellFormed = true) :
    MakeLikeOk b (makeMoveLike b m) :=
  fun _ _ e => (checked_post b m hv hwf .validate).of_ok e

theorem makeUciMove_ok (b : Board) (u : UciMove) (hv : Valid b) : MakeLikeOk b (makeUciMove b u) :=
  fun _ _ e => (makeUciMove_post b u hv).of_ok e

theorem makeUciStr_post (b : Board) (s : Bytes) (hv : Valid b) :
    (makeUciStr b s).Ensures fun p => LegalStep b p.1 ∧ p.2 = (makeMove b p.1).1 := by
  cases hm : moveFromUciSemilegal s b with
  | ok m =>
    obtain ⟨ok, h1, hwf, hsl, h2⟩ := C02.makeUciStr_of_read b hv s m hm
    rw [h2]
    cases ok
    · trivial
    · exact ⟨⟨hwf, hsl, h1⟩, rfl⟩
  | err e => unfold makeUciStr; rw [hm]; trivial
  | trap w => exact absurd hm (moveFromUci_no_trap b (valid_hasKings b hv) s w).2.1

theorem makeUciStr_ok (b : Board) (s : Bytes) (hv : Valid b) : MakeLikeOk b (makeUciStr b s) :=
  fun _ _ e => (makeUciStr_post b s hv).of_ok e

/-- neither the `Move` nor the `uci::Move` push path can panic on a valid board (`Uci<S>`: `C12.makeUciStr_no_trap`) -/
theorem push_no_trap (b : Board) (hv : Valid b) (w : String) :
    (∀ m, m.isWellFormed = true → makeMoveLike b m ≠ .trap w) ∧ (∀ u, makeUciMove b u ≠ .trap w) :=
  ⟨fun m hwf => (checked_post b m hv hwf .validate).no_trap w, fun u => (makeUciMove_post b u hv).no_trap w⟩

/-- `push_uci_list` token by token: the invariant, what is kept, how far it got (by the result: to the end, or to
the failing token `k`), and no panic at any token -/
theorem go_spec (toks : List Bytes) : ∀ (ch : Chain) (pos : Nat), ChainInv ch →
    let r := Chain.pushUciList.go ch toks pos
    ChainInv r.1 ∧ r.1.start = ch.start ∧ r.1.outcome = ch.outcome ∧ ch.stack <+: r.1.stack
      ∧ (r.2 = none → r.1.stack.length = ch.stack.length + toks.length)
      ∧ (∀ k e, r.2 = some (k, e) → pos ≤ k ∧ r.1.stack.length = ch.stack.length + (k - pos))
      ∧ ∀ k w, r.2 ≠ some (k, .trap w) := by
  induction toks with
  | nil =>
    intro ch pos h
    exact ⟨h, rfl, rfl, List.prefix_refl _, fun _ => rfl, fun _ _ he => (by cases he), fun _ _ he => (by cases he)⟩
  | cons t rest ih =>
    intro ch pos h
    simp only [Chain.pushUciList.go]
    cases hp : ch.pushWith (makeUciStr ch.board t) with
    | ok ch' =>
      simp only
      obtain ⟨mv, _, _, hinv', hst, _, hstart, hout⟩ := push_ok ch ch' h _ (makeUciStr_ok ch.board t h.valid) hp
      obtain ⟨i1, i2, i3, i4, i5, i6, i7⟩ := ih ch' (pos + 1) hinv'
      have hl : ch'.stack.length = ch.stack.length + 1 := by rw [hst]; simp
      refine ⟨i1, i2.trans hstart, i3.trans hout, ?_, fun e => ?_, fun k e he => ?_, i7⟩
      · exact List.IsPrefix.trans (by rw [hst]; exact List.prefix_append _ _) i4
      · have := i5 e
        simp only [List.length_cons]
        omega
      · have := i6 k e he
        omega
    | err e =>
      exact ⟨h, rfl, rfl, List.prefix_refl _, fun he => (by cases he), fun k e he => (by cases he; simp),
        fun k w he => (by cases he)⟩
    | trap w =>
      cases hr : makeUciStr ch.board t with
      | trap w2 => exact absurd hr ((makeUciStr_post ch.board t h.valid).no_trap w2)
      | ok p => rw [hr] at hp; cases hp
      | err e => rw [hr] at hp; cases hp

/-- C13: `push_uci_list` pushes the tokens one by one; the chain after it satisfies the invariant, keeps start and
outcome, extends the old record, and on failure holds exactly the accepted prefix (failure index = number pushed) -/
theorem pushUciList_go (toks : List Bytes) : ∀ (ch : Chain) (pos : Nat), ChainInv ch →
    let r := Chain.pushUciList.go ch toks pos
    ChainInv r.1 ∧ r.1.start = ch.start ∧ r.1.outcome = ch.outcome ∧ ch.stack <+: r.1.stack
      ∧ (match r.2 with
         | none => r.1.stack.length = ch.stack.length + toks.length
         | some (k, _) => pos ≤ k ∧ r.1.stack.length = ch.stack.length + (k - pos)) := by
  intro ch pos h
  obtain ⟨a, b, c, d, e, f, _⟩ := go_spec toks ch pos h
  refine ⟨a, b, c, d, ?_⟩
  cases h2 : (Chain.pushUciList.go ch toks pos).2 with
  | none => exact e h2
  | some ke => exact f ke.1 ke.2 h2

/-- C13: two chains compare equal exactly when start positions, move lists and stored outcomes are equal -/
theorem beq_iff (a b : Chain) :
    a.beq b = true ↔ (a.start = b.start ∧ a.stack.map (·.1) = b.stack.map (·.1) ∧ a.outcome = b.outcome) := by
  have key : ∀ (x y : List (Move × RawUndo)),
      ((x.length == y.length) = true ∧ ((x.zip y).all fun p => decide (p.1.1 = p.2.1)) = true)
        ↔ x.map (·.1) = y.map (·.1) := by
    intro x
    induction x with
    | nil => intro y; cases y <;> simp
    | cons e x ih =>
      intro y
      cases y with
      | nil => simp
      | cons f y => simp [← ih y, and_left_comm]
  unfold Chain.beq
  simp only [Bool.and_eq_true, decide_eq_true_eq, ← key]
  constructor
  · intro ⟨⟨⟨h1, h2⟩, h3⟩, h4⟩; exact ⟨h1, ⟨h2, h4⟩, h3⟩
  · intro ⟨h1, ⟨h2, h4⟩, h3⟩; exact ⟨⟨⟨h1, h2⟩, h3⟩, h4⟩

/-- C13 in rule terms: the recorded moves are moves of the rules and the current position is the rules' replay of
them from the start -/
theorem Game.spec {b0 : Board} (h0 : Valid b0) : ∀ {st hs b}, Game b0 st hs b →
    ∃ sms, st.map (fun e => absMove e.1) = sms.map some ∧ abs b.r = Spec.replay (abs b0.r) sms := by
  intro st hs b h
  induction h with
  | nil => exact ⟨[], rfl, rfl⟩
  | @snoc st hs bp m hg hl ih =>
    obtain ⟨sms, i1, i2⟩ := ih
    have hvbp := hg.valid h0
    obtain ⟨sm, s1, s2⟩ := Lemmas.make_refines_apply bp m (applyHyp_of_valid bp m hvbp hl.wf hl.sl)
    refine ⟨sms ++ [sm], ?_, ?_⟩
    · simp [i1, s1]
    · rw [s2, i2]; simp [Spec.replay, List.foldl_append]

theorem chain_refines_rules (ch : Chain) (h : ChainInv ch) :
    ∃ sms, ch.stack.map (fun e => absMove e.1) = sms.map some ∧ abs ch.board.r = Spec.replay (abs ch.start) sms := by
  obtain ⟨hs, h⟩ := h
  exact h.game.spec h.start

end Owl.Props.C13
