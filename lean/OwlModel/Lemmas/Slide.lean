/-
The ray walk `Spec.slide` for C15, on numbers (`slideM`), and an enumeration of all occupancies of the squares that
matter to it, one table per ray (`rayTab`, `runTabs`): what the kernel evaluates when it checks the magic tables.
-/
import OwlModel.Spec.Rules
import OwlModel.Impl.Attack
import OwlModel.Lemmas.BitSet

namespace Owl.Lemmas
open Owl

/-- the set of squares reached by sliding, as a bitboard -/
def slideBB (dirs : List (Int × Int)) (occ : BB) (s : Sq) : BB :=
  BB.ofList (Spec.slide dirs (fun t => occ.has t) s)

theorem has_and (a b : BB) (s : Sq) : (a &&& b).has s = (a.has s && b.has s) := BB.has_and a b s

/-! ### the ray walk on numbers

A square is its mask `2 ^ index`, an occupancy a number. (The functions the kernel evaluates for every occupancy are
written with its accelerated `Nat` functions directly: the notation costs half as much again in instance unfolding.) -/

def bitN (t : Sq) : Nat := 2 ^ t.val

/-- `Spec.reach` on the masks of the squares of a ray (nearest first) -/
def reachM (occ : Nat) : List Nat → Nat
  | [] => 0
  | m :: r => cond (Nat.beq (Nat.land occ m) 0) (Nat.lor m (reachM occ r)) m

def slideM (occ : Nat) (rays : List (List Nat)) : Nat := rays.foldr (fun r acc => Nat.lor (reachM occ r) acc) 0

def raysM (dirs : List (Int × Int)) (s : Sq) : List (List Nat) := dirs.map fun d => (Spec.ray d 7 s).map bitN

theorem lor_eq (a b : Nat) : Nat.lor a b = a ||| b := rfl

theorem land_bitN (occ : Nat) (t : Sq) : occ &&& bitN t = if occ.testBit t.val then bitN t else 0 := by
  apply Nat.eq_of_testBit_eq
  intro j
  rw [Nat.testBit_and, bitN, Nat.testBit_two_pow]
  by_cases hj : t.val = j
  · subst hj; cases occ.testBit t.val <;> simp
  · cases occ.testBit t.val <;> simp [hj]

theorem and_bitN (occ : Nat) (t : Sq) : Nat.beq (Nat.land occ (bitN t)) 0 = !occ.testBit t.val := by
  show Nat.beq (occ &&& bitN t) 0 = _
  rw [land_bitN]
  cases occ.testBit t.val
  · rfl
  · cases hb : Nat.beq (bitN t) 0
    · simpa using hb
    · exact absurd (Nat.eq_of_beq_eq_true hb) (Nat.ne_of_gt (Nat.two_pow_pos _))

theorem testBit_bitN (x t : Sq) : (bitN x).testBit t.val = decide (x = t) := by
  unfold bitN
  rw [Nat.testBit_two_pow]
  exact decide_eq_decide.mpr ⟨fun h => Fin.ext h, fun h => h ▸ rfl⟩

theorem testBit_reachM (occ : Nat) (t : Sq) :
    ∀ l : List Sq, (reachM occ (l.map bitN)).testBit t.val = decide (t ∈ Spec.reach (fun x => occ.testBit x.val) l)
  | [] => by simp [reachM, Spec.reach]
  | x :: r => by
    have ih := testBit_reachM occ t r
    simp only [List.map_cons, reachM, and_bitN, Spec.reach]
    by_cases h : occ.testBit x.val = true
    · simp [h, testBit_bitN, eq_comm]
    · simp [h, testBit_bitN, ih, eq_comm]

theorem has_ofNat (n : Nat) (t : Sq) : (BB.ofNat n).has t = n.testBit t.val := by
  unfold BB.has BB.ofNat
  rw [BitVec.getLsbD_ofNat]
  simp [t.isLt]

theorem slideBB_eq_slideM (dirs : List (Int × Int)) (occ : BB) (s : Sq) :
    slideBB dirs occ s = BB.ofNat (slideM occ.toNat (raysM dirs s)) := by
  apply BB.ext_has
  intro t
  have hocc : (fun x : Sq => occ.has x) = fun x => occ.toNat.testBit x.val := rfl
  rw [slideBB, BB.has_ofList, has_ofNat, hocc]
  unfold Spec.slide slideM raysM
  induction dirs with
  | nil => simp
  | cons d ds ih =>
    simp only [List.flatMap_cons, List.mem_append, Bool.decide_or, List.map_cons, List.foldr_cons, lor_eq,
      Nat.testBit_or, testBit_reachM, ih]

/-! ### all occupancies, ray by ray

The walk along a ray depends on the occupancy of its squares but for the last one, and only through the nearest
occupied of them. So every ray gets the table of these occupancies, each with what is reached along the ray, and the
occupancies of the whole mask are the choices of one entry from every table. -/

/-- the union of the squares of a ray -/
def fullM (r : List Nat) : Nat := r.foldr Nat.lor 0

/-- the squares whose occupancy matters: all of every ray but its last -/
def maskM (rays : List (List Nat)) : Nat := rays.foldr (fun r acc => Nat.lor (fullM r.dropLast) acc) 0

/-- every occupancy of the squares of a ray but its last, each with what is reached along the ray: an occupied nearest
square `m` stops the walk whatever stands behind it -/
def rayTab : List Nat → List (Nat × Nat)
  | [] => [(0, 0)]
  | [m] => [(0, m)]
  | m :: r => ((rayTab r).map fun e => (e.1, Nat.lor m e.2)) ++ ((rayTab r).map fun e => (Nat.lor m e.1, m))

/-- `look` equals the walk for every choice of one entry from each table; `occ`, `reached`: the union of the entries
chosen so far. (The equation for the last table spares the kernel one call per occupancy.) -/
def runTabs (look : Nat → Nat) : List (List (Nat × Nat)) → Nat → Nat → Bool
  | [], occ, reached => Nat.beq (look occ) reached
  | [t], occ, reached => t.all fun e => Nat.beq (look (Nat.lor occ e.1)) (Nat.lor reached e.2)
  | t :: ts, occ, reached => t.all fun e => runTabs look ts (Nat.lor occ e.1) (Nat.lor reached e.2)

theorem runTabs_cons (look : Nat → Nat) (t : List (Nat × Nat)) (ts : List (List (Nat × Nat))) (occ reached : Nat) :
    runTabs look (t :: ts) occ reached = t.all fun e => runTabs look ts (occ ||| e.1) (reached ||| e.2) := by
  cases ts <;> rfl

/-- the entry of the occupancy `x` -/
theorem mem_rayTab (x : Nat) : ∀ l : List Sq,
    (x &&& fullM (l.map bitN).dropLast, reachM x (l.map bitN)) ∈ rayTab (l.map bitN)
  | [] => by simp [rayTab, fullM, reachM]
  | [t] => by
    simp only [List.map_cons, List.map_nil, List.dropLast_singleton, fullM, List.foldr_nil, Nat.and_zero, reachM,
      rayTab, List.mem_singleton, lor_eq, Nat.or_zero]
    cases Nat.beq (Nat.land x (bitN t)) 0 <;> rfl
  | t :: u :: l => by
    have ih := mem_rayTab x (u :: l)
    simp only [List.map_cons, List.dropLast_cons_cons, fullM, List.foldr_cons, reachM, rayTab, and_bitN, lor_eq,
      Nat.and_or_distrib_left, land_bitN, List.mem_append, List.mem_map] at ih ⊢
    cases x.testBit t.val
    · exact Or.inl ⟨_, ih, by simp⟩
    · exact Or.inr ⟨_, ih, by simp⟩

theorem runTabs_sound {look : Nat → Nat} (x : Nat) : ∀ (ls : List (List Sq)) (occ reached : Nat),
    runTabs look (ls.map fun l => rayTab (l.map bitN)) occ reached = true →
      look (occ ||| (x &&& maskM (ls.map fun l => l.map bitN))) = reached ||| slideM x (ls.map fun l => l.map bitN)
  | [], occ, reached, h => by simpa [maskM, slideM] using Nat.eq_of_beq_eq_true h
  | l :: ls, occ, reached, h => by
    rw [List.map_cons, runTabs_cons, List.all_eq_true] at h
    have := runTabs_sound x ls _ _ (h _ (mem_rayTab x l))
    simpa only [List.map_cons, maskM, slideM, List.foldr_cons, lor_eq, Nat.and_or_distrib_left, Nat.or_assoc] using this

/-- the table of two rays together: every choice of one entry from each -/
def cross (a b : List (Nat × Nat)) : List (Nat × Nat) :=
  a.flatMap fun x => b.map fun y => (Nat.lor x.1 y.1, Nat.lor x.2 y.2)

/-- The tables joined two by two. The last table is walked once for every choice from the others, and a short one there
(a ray of one square or none) makes every occupancy cost a call more; two opposite rays together have 32 entries or more
on a rook's line. -/
def pairUp : List (List (Nat × Nat)) → List (List (Nat × Nat))
  | a :: b :: r => cross a b :: pairUp r
  | r => r

theorem runTabs_pairUp (look : Nat → Nat) : ∀ (ts : List (List (Nat × Nat))) (occ reached : Nat),
    runTabs look (pairUp ts) occ reached = runTabs look ts occ reached
  | [], _, _ => rfl
  | [_], _, _ => rfl
  | a :: b :: r, occ, reached => by
    simp only [pairUp, cross, runTabs_cons, List.all_flatMap, List.all_map, Function.comp_def, runTabs_pairUp look r,
      lor_eq, Nat.or_assoc]

end Owl.Lemmas
