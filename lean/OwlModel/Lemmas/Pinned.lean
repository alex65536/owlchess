/-
`DefaultPrechecker::pinned` contains every own man that alone shields the king from an enemy slider.
-/
import OwlModel.Lemmas.Valid

namespace Owl.Lemmas
open Owl Owl.Impl

theorem has_foldl_acc (f : Sq → BB) (l : List Sq) (acc : BB) (t : Sq) :
    (l.foldl (fun acc p => acc ||| f p) acc).has t = true ↔ (acc.has t = true ∨ ∃ p ∈ l, (f p).has t = true) := by
  induction l generalizing acc with
  | nil => simp
  | cons x xs ih =>
    simp only [List.foldl_cons, ih, BB.has_or, Bool.or_eq_true, List.mem_cons, exists_eq_or_imp, or_assoc]

/-- `pinned`: the own men between the king and an enemy line piece that the x-ray lookup from the king reaches -/
theorem pinned_has (b : Board) (c : Color) (k x : Sq) :
    (pinned b c k).has x = true ↔
      (∃ s, (bishopXray b (b.color c) k &&& b.pieceDiag c.inv).has s = true ∧ (bishopStrict s k &&& b.color c).has x = true)
      ∨ (∃ s, (rookXray b (b.color c) k &&& b.pieceLine c.inv).has s = true ∧ (rookStrict s k &&& b.color c).has x = true) := by
  unfold pinned
  simp only [has_foldl_acc, BB.mem_toList, BB.has_zero, Bool.false_eq_true, false_or]

/-- an own man that is the only man between the king and an enemy slider of the right kind is in `pinned` -/
theorem pinned_has_diag (b : Board) (hb : Consistent b) (c : Color) (k x s : Sq) (hx : (b.color c).has x = true)
    (hs : (b.pieceDiag c.inv).has s = true) (hv : isBishopValid s k = true) (hxs : (bishopStrict s k).has x = true)
    (honly : ∀ y, (bishopStrict s k).has y = true → b.all.has y = true → y = x) (hall : b.all.has x = true) :
    (pinned b c k).has x = true := by
  have hxray : (bishopXray b (b.color c) k).has s = true :=
    Line.bishop.xray b.all (b.color c) (color_sub_all b hb c) k x s hx hv hxs honly
  exact (pinned_has b c k x).mpr (.inl ⟨s, by rw [BB.has_and, hxray, hs]; rfl, by rw [BB.has_and, hxs, hx]; rfl⟩)

theorem pinned_has_line (b : Board) (hb : Consistent b) (c : Color) (k x s : Sq) (hx : (b.color c).has x = true)
    (hs : (b.pieceLine c.inv).has s = true) (hv : isRookValid s k = true) (hxs : (rookStrict s k).has x = true)
    (honly : ∀ y, (rookStrict s k).has y = true → b.all.has y = true → y = x) :
    (pinned b c k).has x = true := by
  have hxray : (rookXray b (b.color c) k).has s = true :=
    Line.rook.xray b.all (b.color c) (color_sub_all b hb c) k x s hx hv hxs honly
  exact (pinned_has b c k x).mpr (.inr ⟨s, by rw [BB.has_and, hxray, hs]; rfl, by rw [BB.has_and, hxs, hx]; rfl⟩)

end Owl.Lemmas
