/-
C06 building blocks: what "well-formed and semilegal" (`Move::is_well_formed` ∧ `Move::is_semilegal`) says of a move of one
kind, on the squares (each reads `sl_mk` for that kind, the pieces with their attack sets; `sl_mk` is `sl_iff` of
Lemmas/SemiView.lean for a move given by its parts, with `Semi.ne` and `Semi.not_own` saying once that the conditions of a
kind move the man, onto a square without an own man); and membership in each generator component in terms of the bit sets
it loops over.
-/
import OwlModel.Lemmas.Checker
import OwlModel.Lemmas.Coords

namespace Owl.Lemmas
open Owl Owl.Impl

/-- the piece loops: sources from one bit set, for each its destinations from another -/
theorem mem_srcDst (c : Color) (k : Kind) (p : Piece) (X : BB) (A : Sq → BB) (mv : Move) :
    (mv ∈ X.toList.flatMap fun src => (A src).toList.map fun dst => mkMove c k p src dst) ↔
      ∃ s d, X.has s = true ∧ (A s).has d = true ∧ mv = mkMove c k p s d := by
  simp only [List.mem_flatMap, List.mem_map, BB.mem_toList]
  constructor
  · rintro ⟨s, hs, d, hd, rfl⟩; exact ⟨s, d, hs, hd, rfl⟩
  · rintro ⟨s, d, hs, hd, rfl⟩; exact ⟨s, hs, d, hd, rfl⟩

theorem mem_gen_pieces (b : Board) (c : Color) (fs fc : Bool) (mv : Move) :
    (mv ∈ genKN b c fs fc .knight ++ genKN b c fs fc .king ++ genBRQ b c fs fc) ↔
      ∃ p s d, p ≠ .pawn ∧ (b.piece2 c p).has s = true ∧ (pieceAttack p s b.all).has d = true
        ∧ (allowedMask b c fs fc).has d = true ∧ mv = mkMove c .simple p s d := by
  have loop := fun p => mem_srcDst c .simple p (b.piece2 c p) (fun s => pieceAttack p s b.all &&& allowedMask b c fs fc) mv
  have hN : mv ∈ genKN b c fs fc .knight ↔ _ := loop .knight
  have hK : mv ∈ genKN b c fs fc .king ↔ _ := loop .king
  have hB : mv ∈ genBRQOf b c fs fc true false .bishop ↔ _ := loop .bishop
  have hR : mv ∈ genBRQOf b c fs fc false true .rook ↔ _ := loop .rook
  have hQ : mv ∈ genBRQOf b c fs fc true true .queen ↔ _ := loop .queen
  unfold genBRQ
  simp only [List.mem_append, hN, hK, hB, hR, hQ, BB.has_and, Bool.and_eq_true, and_assoc]
  constructor
  · rintro ((⟨s, d, h⟩ | ⟨s, d, h⟩) | ((⟨s, d, h⟩ | ⟨s, d, h⟩) | ⟨s, d, h⟩))
    · exact ⟨.knight, s, d, by decide, h⟩
    · exact ⟨.king, s, d, by decide, h⟩
    · exact ⟨.bishop, s, d, by decide, h⟩
    · exact ⟨.rook, s, d, by decide, h⟩
    · exact ⟨.queen, s, d, by decide, h⟩
  · rintro ⟨p, s, d, hp, h⟩
    cases p
    · exact absurd rfl hp
    · exact Or.inl (Or.inr ⟨s, d, h⟩)
    · exact Or.inl (Or.inl ⟨s, d, h⟩)
    · exact Or.inr (Or.inl (Or.inl ⟨s, d, h⟩))
    · exact Or.inr (Or.inl (Or.inr ⟨s, d, h⟩))
    · exact Or.inr (Or.inr ⟨s, d, h⟩)

theorem promo_ranks_ne (c : Color) : promoteSrcRank c ≠ promoteDstRank c := by cases c <;> decide

theorem double_ranks_ne (c : Color) : doubleSrcRank c ≠ doubleDstRank c := by cases c <;> decide

/-- the conditions of every kind move the man: source and destination differ -/
theorem Semi.ne {b : Board} {k : Kind} {p : Piece} {s d : Sq} (h : Semi b k p s d) : s ≠ d := by
  rintro rfl
  obtain ⟨k1, k2, -⟩ := self_not_attacked s
  cases h with
  | piece hg =>
    have nb : isBishopValid s s = true → False := fun h => Line.bishop.valid_ne h rfl
    have nr : isRookValid s s = true → False := fun h => Line.rook.valid_ne h rfl
    cases p <;> simp_all [pieceGeom]
  | pawn _ _ _ _ hst => revert hst; unfold rankStep; cases b.r.side <;> simp
  | promo _ hs hd => exact promo_ranks_ne _ (hs.symm.trans hd)
  | double _ hs hd => exact double_ranks_ne _ (hs.symm.trans hd)
  | ep _ _ _ hf => exact file_ne_of_diff hf rfl
  | castleK hs hd => exact mk_file_ne fileE fileG _ (by decide) (hs.symm.trans hd)
  | castleQ hs hd => exact mk_file_ne fileE fileC _ (by decide) (hs.symm.trans hd)

/-- … and onto a square that holds no own man -/
theorem Semi.not_own {b : Board} {k : Kind} {p : Piece} {s d : Sq} (h : Semi b k p s d) :
    (b.get d).color ≠ some b.r.side := by
  cases h with
  | pawn _ _ _ _ _ hto => exact pawnTo_not_own b hto
  | promo _ _ _ hto => exact pawnTo_not_own b hto
  | double _ _ _ _ he => exact empty_not_own b he
  | piece _ _ h | ep _ _ _ _ _ _ _ h | castleK _ _ _ _ _ _ h | castleQ _ _ _ _ _ _ h => exact h

/-- `sl_iff` for a move given by its parts: the man stands on the source, and the conditions of the kind hold -/
theorem sl_mk (b : Board) (k : Kind) (p : Piece) (s d : Sq) :
    SL b (mkMove b.r.side k p s d) ↔ (b.get s = Cell.mk b.r.side p ∧ Semi b k p s d) := by
  unfold SL
  rw [sl_iff]
  constructor
  · rintro ⟨q, hc, hs, -, -, h⟩
    obtain rfl := (mk_inj hc).2
    exact ⟨hs, h⟩
  · exact fun ⟨hs, h⟩ => ⟨p, rfl, hs, h.not_own, h.ne, h⟩

/-- C06 (pieces): a simple move of a knight, king, bishop, rook or queen is well-formed and semilegal exactly when
that man stands on the source, the destination is in its attack set and does not hold an own man -/
theorem sl_piece (b : Board) (p : Piece) (hp : p ≠ .pawn) (s d : Sq) :
    ((mkMove b.r.side .simple p s d).isWellFormed = true ∧ isSemilegal b (mkMove b.r.side .simple p s d) = true) ↔
      (b.get s = Cell.mk b.r.side p ∧ (pieceAttack p s b.all).has d = true ∧ (b.get d).color ≠ some b.r.side) := by
  rw [← SL, sl_mk, pieceAttack_has p hp, Bool.and_eq_true]
  refine and_congr_right fun _ => ⟨fun h => ?_, fun ⟨⟨hg, hc⟩, hd⟩ => .piece hg hc hd⟩
  cases h with
  | piece hg hc hd => exact ⟨⟨hg, hc⟩, hd⟩
  | pawn => exact absurd rfl hp
  | promo hk => cases hk

/-- the kinds `add_pawn_with_promote::<IS_PROMOTE>` gives a pawn step -/
def promoKind : Bool → Kind → Prop
  | true, k => k.promote.isSome = true
  | false, k => k = .simple

/-- … and where such a step starts: promotions on the last rank but one, the others off it -/
def onPromoRank (c : Color) : Bool → Sq → Prop
  | true, s => s.rank = promoteSrcRank c
  | false, s => s.rank ≠ promoteSrcRank c

theorem mem_addPawn (c : Color) (isPromote : Bool) (s d : Sq) (mv : Move) :
    mv ∈ addPawnWithPromote c isPromote s d ↔ ∃ k, promoKind isPromote k ∧ mv = mkMove c k .pawn s d := by
  unfold addPawnWithPromote
  cases isPromote
  · simp [promoKind]
  · simp only [promoKind, if_true, List.mem_cons, List.not_mem_nil, or_false]
    constructor
    · rintro (h | h | h | h) <;> exact ⟨_, rfl, h⟩
    · rintro ⟨k, hk, rfl⟩
      revert hk; cases k <;> simp [Kind.promote]

/-- pawn pushes: destination empty, the pawn one step behind it -/
theorem mem_genPawnSingle (b : Board) (c : Color) (isPromote : Bool) (pawns : BB) (mv : Move) :
    mv ∈ genPawnSingle b c isPromote pawns ↔
      ∃ s d k, (d.rank ≠ behindRank c ∧ s = addU d (-(forwardDelta c))) ∧ pawns.has s = true ∧ b.all.has d = false
        ∧ promoKind isPromote k ∧ mv = mkMove c k .pawn s d := by
  unfold genPawnSingle
  simp only [List.mem_flatMap, BB.mem_toList, BB.has_and, BB.has_not, advanceForward_has, Bool.and_eq_true,
    decide_eq_true_eq, Bool.not_eq_true', mem_addPawn]
  constructor
  · rintro ⟨d, ⟨⟨h1, h2⟩, h3⟩, k, h4⟩; exact ⟨_, d, k, ⟨h1, rfl⟩, h2, h3, h4⟩
  · rintro ⟨_, d, k, ⟨h1, rfl⟩, h2, h3, h4⟩; exact ⟨d, ⟨⟨h1, h2⟩, h3⟩, k, h4⟩

/-- double steps: destination and the square behind it empty, the pawn two steps behind -/
theorem mem_genPawnDouble (b : Board) (c : Color) (pawns : BB) (mv : Move) :
    mv ∈ genPawnDouble b c pawns ↔
      ∃ s d, (d.rank ≠ behindRank c ∧ (addU d (-(forwardDelta c))).rank ≠ behindRank c
          ∧ s = addU d (-(2 * forwardDelta c)))
        ∧ pawns.has s = true ∧ b.all.has (addU d (-(forwardDelta c))) = false ∧ b.all.has d = false
        ∧ mv = mkMove c .double .pawn s d := by
  unfold genPawnDouble
  simp only [List.mem_map, BB.mem_toList, BB.has_and, BB.has_not, advanceForward_has, Bool.and_eq_true,
    decide_eq_true_eq, Bool.not_eq_true']
  constructor
  · rintro ⟨d, ⟨⟨h1, ⟨h2, h3⟩, h4⟩, h5⟩, rfl⟩
    exact ⟨_, d, ⟨h1, h2, rfl⟩, pg_double2 c d h1 h2 ▸ h3, h4, h5, rfl⟩
  · rintro ⟨_, d, ⟨h1, h2, rfl⟩, h3, h4, h5, rfl⟩
    exact ⟨d, ⟨⟨h1, ⟨h2, (pg_double2 c d h1 h2).symm ▸ h3⟩, h4⟩, h5⟩, rfl⟩

/-- pawn captures: an enemy man on the destination, the pawn one step behind it to either side -/
theorem mem_genPawnCaptureOf (b : Board) (c : Color) (isPromote : Bool) (pawns : BB) (mv : Move) :
    mv ∈ genPawnCaptureOf b c isPromote pawns ↔
      ∃ s d k, (((d.rank ≠ behindRank c ∧ d.file ≠ 7) ∧ s = addU d (-(leftDelta c)))
          ∨ ((d.rank ≠ behindRank c ∧ d.file ≠ 0) ∧ s = addU d (-(rightDelta c))))
        ∧ pawns.has s = true ∧ (b.color c.inv).has d = true ∧ promoKind isPromote k ∧ mv = mkMove c k .pawn s d := by
  unfold genPawnCaptureOf
  simp only [List.mem_append, List.mem_flatMap, BB.mem_toList, BB.has_and, advanceLeft_has, advanceRight_has,
    Bool.and_eq_true, decide_eq_true_eq, mem_addPawn]
  constructor
  · rintro (⟨d, ⟨⟨h1, h2⟩, h3⟩, k, h4⟩ | ⟨d, ⟨⟨h1, h2⟩, h3⟩, k, h4⟩)
    · exact ⟨_, d, k, Or.inl ⟨h1, rfl⟩, h2, h3, h4⟩
    · exact ⟨_, d, k, Or.inr ⟨h1, rfl⟩, h2, h3, h4⟩
  · rintro ⟨_, d, k, ⟨h1, rfl⟩ | ⟨h1, rfl⟩, h2, h3, h4⟩
    · exact Or.inl ⟨d, ⟨⟨h1, h2⟩, h3⟩, k, h4⟩
    · exact Or.inr ⟨d, ⟨⟨h1, h2⟩, h3⟩, k, h4⟩

theorem sl_pawn_double (b : Board) (s d : Sq) :
    SL b (mkMove b.r.side .double .pawn s d) ↔
      (b.get s = Cell.mk b.r.side .pawn ∧ s.file = d.file ∧ s.rank = doubleSrcRank b.r.side
        ∧ d.rank = doubleDstRank b.r.side ∧ b.get (addU s (forwardDelta b.r.side)) = Cell.empty ∧ b.get d = Cell.empty) := by
  rw [sl_mk]
  refine and_congr_right fun _ => ⟨fun h => ?_, fun ⟨hf, hsr, hdr, he1, he2⟩ => .double hf hsr hdr he1 he2⟩
  cases h with
  | double hf hsr hdr he1 he2 => exact ⟨hf, hsr, hdr, he1, he2⟩
  | promo hk => cases hk

theorem sl_pawn_ep (b : Board) (s d : Sq) :
    SL b (mkMove b.r.side .ep .pawn s d) ↔
      (b.get s = Cell.mk b.r.side .pawn ∧ s.rank = epSrcRank b.r.side ∧ d.rank = epDstRank b.r.side
        ∧ absDiff s.file.val d.file.val = 1 ∧ (b.get d).color ≠ some b.r.side
        ∧ ∃ p, b.r.ep = some p ∧ (p = addU s 1 ∨ p = addU s (-1)) ∧ d = addU p (forwardDelta b.r.side)) := by
  rw [sl_mk]
  refine and_congr_right fun _ => ⟨fun h => ?_, fun ⟨hsr, hdr, hf, hd, q, hep, hq, hdq⟩ => .ep q hsr hdr hf hep hq hdq hd⟩
  cases h with
  | ep q hsr hdr hf hep hq hdq hd => exact ⟨hsr, hdr, hf, hd, q, hep, hq, hdq⟩
  | promo hk => cases hk

/-- C06 (castling): well-formed and semilegal = on the home squares with the right, free path, king not in check and
not crossing an attacked square -/
theorem sl_castle (b : Board) (sd : Side) (s d : Sq) :
    SL b (mkMove b.r.side (castleKind sd) .king s d) ↔
      (s = kingHomeSq b.r.side ∧ d = kingTo b.r.side sd
        ∧ b.get s = Cell.mk b.r.side .king ∧ (b.get d).color ≠ some b.r.side
        ∧ rHas b.r.castling b.r.side sd = true ∧ (b.all &&& castlingPass b.r.side sd).isEmpty = true
        ∧ isCellAttacked b s b.r.side.inv = false ∧ isCellAttacked b (rookTo b.r.side sd) b.r.side.inv = false) := by
  obtain ⟨f1, f2⟩ := castle_sq_facts b.r.side
  cases sd <;> simp only [castleKind, kingHomeSq, kingTo, rookTo] <;> rw [sl_mk] <;> constructor
  · rintro ⟨hs, h⟩
    cases h with
    | castleQ h1 h2 hr hp ha1 ha2 hd => subst h1; exact ⟨rfl, h2, hs, hd, hr, hp, ha1, f2 ▸ ha2⟩
  · rintro ⟨rfl, rfl, hs, hd, hr, hp, ha1, ha2⟩
    exact ⟨hs, .castleQ rfl rfl hr hp ha1 (f2 ▸ ha2) hd⟩
  · rintro ⟨hs, h⟩
    cases h with
    | castleK h1 h2 hr hp ha1 ha2 hd => subst h1; exact ⟨rfl, h2, hs, hd, hr, hp, ha1, f1 ▸ ha2⟩
  · rintro ⟨rfl, rfl, hs, hd, hr, hp, ha1, ha2⟩
    exact ⟨hs, .castleK rfl rfl hr hp ha1 (f1 ▸ ha2) hd⟩

theorem mem_genCastling (b : Board) (c : Color) (mv : Move) :
    mv ∈ genCastling b c ↔
      ((rHas b.r.castling c .king = true ∧ (castlingPass c .king &&& b.all).isEmpty = true
          ∧ isCellAttacked b (Sq.mk fileE (castlingRank c)) c.inv = false
          ∧ isCellAttacked b (Sq.mk fileF (castlingRank c)) c.inv = false
          ∧ mv = mkMove c .castleK .king (Sq.mk fileE (castlingRank c)) (Sq.mk fileG (castlingRank c)))
       ∨ (rHas b.r.castling c .queen = true ∧ (castlingPass c .queen &&& b.all).isEmpty = true
          ∧ isCellAttacked b (Sq.mk fileE (castlingRank c)) c.inv = false
          ∧ isCellAttacked b (Sq.mk fileD (castlingRank c)) c.inv = false
          ∧ mv = mkMove c .castleQ .king (Sq.mk fileE (castlingRank c)) (Sq.mk fileC (castlingRank c)))) := by
  unfold genCastling
  rw [Props.C20.rights_has_color]
  cases hk : rHas b.r.castling c .king <;> cases hq : rHas b.r.castling c .queen <;>
    simp only [Bool.or_self, Bool.or_true, Bool.or_false, Bool.not_false, Bool.not_true, if_true, if_false,
      Bool.false_eq_true, List.append_nil, List.nil_append, List.not_mem_nil, false_and, or_false, false_or, true_and,
      List.mem_append, List.mem_ite_nil_right, List.mem_singleton, Bool.and_eq_true, Bool.not_eq_true', and_assoc]

end Owl.Lemmas
